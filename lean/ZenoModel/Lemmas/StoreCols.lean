/-
The row store's field mapping (`outIdxsFor`, `rowMapper`, `rowMerger`): which column of a file row /
memstore row ends up in which outbound column.  A field's identity is its printed form
(`Field.same`).
-/
import ZenoModel.Model.Store
namespace Zeno

theorem merge_none_right (e : Ex) (res : Int) (s : Sq) (tb : Int) : Sq.merge e res s none tb = s := by
  cases s <;> rfl

theorem merge_none_left (e : Ex) (res : Int) (s : Sq) (tb : Int) : Sq.merge e res none s tb = s := by
  cases s <;> rfl

theorem getD_map_const {α β : Type} (l : List α) (b : β) (i : Nat) : (l.map (fun _ => b)).getD i b = b := by
  simp only [List.getD_eq_getElem?_getD, List.getElem?_map]
  cases l[i]? <;> rfl

theorem Field.same_iff (a b : Field) : a.same b = true ↔ a.name = b.name ∧ a.ex.norm = b.ex.norm := by
  simp [Field.same, Ex.sameStr]

theorem Field.same_refl (a : Field) : a.same a = true := (Field.same_iff a a).2 ⟨rfl, rfl⟩

theorem Field.same_symm {a b : Field} (h : a.same b = true) : b.same a = true := by
  rw [Field.same_iff] at *; exact ⟨h.1.symm, h.2.symm⟩

theorem Field.same_trans {a b c : Field} (h₁ : a.same b = true) (h₂ : b.same c = true) : a.same c = true := by
  rw [Field.same_iff] at *; exact ⟨h₁.1.trans h₂.1, h₁.2.trans h₂.2⟩

theorem Field.same_false_symm {a b : Field} (h : a.same b = false) : b.same a = false := by
  cases hb : b.same a with
  | false => rfl
  | true => rw [Field.same_symm hb] at h; exact absurd h (by decide)

theorem Field.same_of_eq {a b : Field} (h : a = b) : a.same b = true := h ▸ Field.same_refl a

def IdNodup (fs : List Field) : Prop := fs.Pairwise (fun a b => a.same b = false)

/-- `IdNodup` for a resolved file layout (`none` = unknown header entry) -/
def IdNodupO (ff : List (Option Field)) : Prop :=
  ff.Pairwise (fun a b => ∀ f g, a = some f → b = some g → f.same g = false)

/-- no field equals (`core.Field.Equals`) an earlier one -/
def FieldsDistinct (fields : List Field) : Prop := fields.Pairwise (fun f g => g.same f = false)

instance (fields : List Field) : Decidable (FieldsDistinct fields) := by
  unfold FieldsDistinct; exact inferInstance

theorem FieldsDistinct.idNodup {fs : List Field} (h : FieldsDistinct fs) : IdNodup fs :=
  h.imp Field.same_false_symm

theorem idNodupO_map_some {fs : List Field} (h : IdNodup fs) : IdNodupO (fs.map some) := by
  unfold IdNodupO
  rw [List.pairwise_map]
  exact h.imp (fun hab f g hf hg => by cases hf; cases hg; exact hab)

theorem IdNodupO.eq_of_same {ff : List (Option Field)} (h : IdNodupO ff) {i j : Nat} {f g : Field}
    (hi : ff[i]? = some (some f)) (hj : ff[j]? = some (some g)) (hs : f.same g = true) : i = j := by
  obtain ⟨hil, hi⟩ := List.getElem?_eq_some_iff.1 hi
  obtain ⟨hjl, hj⟩ := List.getElem?_eq_some_iff.1 hj
  have hp := List.pairwise_iff_getElem.1 h
  rcases Nat.lt_trichotomy i j with hlt | heq | hgt
  · rw [hp i j hil hjl hlt f g hi hj] at hs
    cases hs
  · exact heq
  · rw [Field.same_false_symm (hp j i hjl hil hgt g f hj hi)] at hs
    cases hs

theorem findIdx_same {out : List Field} (hnd : IdNodup out) {f : Field} {o : Nat} (ho : o < out.length)
    (hs : f.same out[o] = true) : out.findIdx? (fun g => f.same g) = some o := by
  rw [List.findIdx?_eq_some_iff_getElem]
  refine ⟨ho, hs, fun j hj hc => ?_⟩
  have := (List.pairwise_iff_getElem.1 hnd) j o (by omega) ho hj
  rw [Field.same_trans (Field.same_symm hc) hs] at this
  cases this

theorem outIdxsFor_getElem? (out : List Field) (inn : List (Option Field)) (i : Nat) :
    (outIdxsFor out inn)[i]? = inn[i]?.map (fun f => match f with
      | none => none
      | some f => out.findIdx? (fun o => f.same o)) :=
  List.getElem?_map

theorem outIdxsFor_length (out : List Field) (inn : List (Option Field)) :
    (outIdxsFor out inn).length = inn.length := List.length_map _

theorem outIdxsFor_some {out : List Field} {inn : List (Option Field)} {i o : Nat}
    (h : (outIdxsFor out inn).getD i none = some o) :
    ∃ f, inn[i]? = some (some f) ∧ ∃ ho : o < out.length, f.same out[o] = true := by
  rw [List.getD_eq_getElem?_getD, outIdxsFor_getElem?] at h
  rcases hi : inn[i]? with _ | _ | f <;> simp only [hi, Option.map_none, Option.map_some, Option.getD_none,
    Option.getD_some, reduceCtorEq] at h
  obtain ⟨ho, hs, _⟩ := List.findIdx?_eq_some_iff_getElem.1 h
  exact ⟨f, rfl, ho, hs⟩

theorem outIdxsFor_of_same {out : List Field} (hnd : IdNodup out) {inn : List (Option Field)} {i o : Nat}
    {f : Field} (hi : inn[i]? = some (some f)) (ho : o < out.length) (hs : f.same out[o] = true) :
    (outIdxsFor out inn).getD i none = some o := by
  rw [List.getD_eq_getElem?_getD, outIdxsFor_getElem?, hi]
  exact findIdx_same hnd ho hs

/-- out position `j` is fed by the stored column `ti` and by no other -/
structure IdxTie (idxs : List (Option Nat)) (ti j : Nat) : Prop where
  tie : idxs.getD ti none = some j
  inj : ∀ i', idxs.getD i' none = some j → i' = ti

theorem idxTie_of_same {out : List Field} (hout : IdNodup out) {ff : List (Option Field)} (hff : IdNodupO ff)
    {i o : Nat} {f : Field} (hfi : ff[i]? = some (some f)) (ho : o < out.length) (hs : f.same out[o] = true) :
    IdxTie (outIdxsFor out ff) i o :=
  ⟨outIdxsFor_of_same hout hfi ho hs, fun _ hj =>
    let ⟨_, hg, _, hgs⟩ := outIdxsFor_some hj
    hff.eq_of_same hg hfi (Field.same_trans hgs (Field.same_symm hs))⟩

/-- with fields that print differently the index map of the memstore / of a file written with the
    table's own fields is the identity -/
theorem idxTie_id {fields : List Field} (hd : IdNodup fields) {i : Nat} (hi : i < fields.length) :
    IdxTie (outIdxsFor fields (fields.map some)) i i :=
  idxTie_of_same hd (idNodupO_map_some hd) (by simp [hi]) hi (Field.same_refl _)

theorem idxTie_of_sublist {fields out : List Field} (hd : IdNodup fields) (hsub : out.Sublist fields)
    {ti j : Nat} (hti : ti < fields.length) (hj : out[j]? = some (fields[ti])) :
    IdxTie (outIdxsFor out (fields.map some)) ti j := by
  obtain ⟨hjl, hje⟩ := List.getElem?_eq_some_iff.mp hj
  exact idxTie_of_same (hd.sublist hsub) (idNodupO_map_some hd) (by simp [hti]) hjl
    (Field.same_of_eq hje.symm)

/-- generic shape of `rowMapper` / `rowMerger` applied to all columns of a row: column `c` at
    in-position `i` updates out-position `idx i` -/
def colFold {α β : Type} (idx : Nat → Option Nat) (upd : List α → Nat → β → List α)
    (init : List α) (l : List (β × Nat)) : List α :=
  l.foldl (fun acc ci => match idx ci.2 with | some o => upd acc o ci.1 | none => acc) init

/-- the code's fold also records whether any column was mapped -/
theorem foldl_flag_eq_colFold {α β : Type} (idx : Nat → Option Nat) (upd : List α → Nat → β → List α)
    (l : List (β × Nat)) : ∀ (acc : List α × Bool),
    l.foldl (fun (acc : List α × Bool) (ci : β × Nat) => match idx ci.2 with
      | some o => (upd acc.1 o ci.1, true)
      | none => acc) acc = (colFold idx upd acc.1 l, acc.2 || l.any (fun ci => (idx ci.2).isSome)) := by
  induction l with
  | nil => intro acc; simp [colFold]
  | cons x r ih =>
    intro acc
    simp only [List.foldl_cons, List.any_cons, colFold, ih]
    cases h : idx x.2 <;> simp

theorem colFold_length {α β : Type} (upd : List α → Nat → β → List α)
    (hlen : ∀ acc o c, (upd acc o c).length = acc.length) (idx : Nat → Option Nat) :
    ∀ (l : List (β × Nat)) (init : List α), (colFold idx upd init l).length = init.length := by
  intro l
  induction l with
  | nil => intro init; rfl
  | cons x r ih =>
    intro init
    simp only [colFold, List.foldl_cons]
    cases h : idx x.2 with
    | none => exact ih init
    | some o => exact (ih _).trans (hlen ..)

section
variable {α β : Type} (upd : List α → Nat → β → List α) (g : Nat → β → α → α)
  (hupd : ∀ acc o c o', (upd acc o c)[o']? = if o = o' then (acc[o']?).map (g o c) else acc[o']?)
include hupd

theorem colFold_miss (idx : Nat → Option Nat) (o : Nat) : ∀ (l : List (β × Nat)) (init : List α),
    (∀ ci ∈ l, idx ci.2 ≠ some o) → (colFold idx upd init l)[o]? = init[o]? := by
  intro l
  induction l with
  | nil => intro init _; rfl
  | cons x r ih =>
    intro init h
    have hr := fun init => ih init fun ci hci => h ci (List.mem_cons_of_mem _ hci)
    simp only [colFold, List.foldl_cons]
    cases hk : idx x.2 with
    | none => exact hr init
    | some o' =>
      have : o' ≠ o := fun e => h x List.mem_cons_self (hk.trans (congrArg some e))
      exact (hr _).trans ((hupd ..).trans (if_neg this))

theorem colFold_hit (idx : Nat → Option Nat) {o i : Nat} (hi : idx i = some o)
    (huniq : ∀ j, idx j = some o → j = i) (cols : List β) (init : List α) :
    (colFold idx upd init cols.zipIdx)[o]? =
      match cols[i]? with
      | some c => (init[o]?).map (g o c)
      | none => init[o]? := by
  have hne : ∀ {l : List β} {k : Nat}, (∀ ci ∈ l.zipIdx k, ci.2 ≠ i) → ∀ ci ∈ l.zipIdx k, idx ci.2 ≠ some o :=
    fun h ci hci e => h ci hci (huniq _ e)
  cases hc : cols[i]? with
  | none =>
    refine colFold_miss upd g hupd idx o _ init (hne fun ci hci e => ?_)
    rw [List.mem_zipIdx_iff_getElem?, e, hc] at hci
    cases hci
  | some c =>
    obtain ⟨hlt, hci⟩ := List.getElem?_eq_some_iff.1 hc
    have hcols : cols = cols.take i ++ c :: cols.drop (i + 1) := by
      rw [← hci, ← List.drop_eq_getElem_cons hlt, List.take_append_drop]
    rw [hcols]
    simp only [colFold, List.zipIdx_append, List.zipIdx_cons, List.foldl_append, List.foldl_cons,
      List.length_take, Nat.min_eq_left (Nat.le_of_lt hlt), Nat.zero_add, hi]
    have h₁ := colFold_miss upd g hupd idx o ((cols.take i).zipIdx) init
      (hne fun ci hci => by have := List.mem_zipIdx (x := ci.1) (i := ci.2) hci; simp at this; omega)
    have h₂ := fun init => colFold_miss upd g hupd idx o ((cols.drop (i + 1)).zipIdx (i + 1)) init
      (hne fun ci hci => by have := List.mem_zipIdx (x := ci.1) (i := ci.2) hci; omega)
    simp only [colFold] at h₁ h₂
    rw [h₂, hupd, if_pos rfl, h₁]

end

theorem set_getElem? {α : Type} (acc : List α) (o : Nat) (c : α) (o' : Nat) :
    (acc.set o c)[o']? = if o = o' then (acc[o']?).map (fun _ => c) else acc[o']? := by
  rw [List.getElem?_set]
  split
  · subst o'
    split <;> simp [*]
  · rfl

theorem mapFileCols_colFold (out : List Field) (ff : List (Option Field)) (cols : List Sq) :
    mapFileCols out ff cols =
      (colFold (fun i => (outIdxsFor out ff).getD i none) (fun acc o c => acc.set o c)
        (out.map (fun _ => none)) cols.zipIdx,
       cols.zipIdx.any (fun ci => ((outIdxsFor out ff).getD ci.2 none).isSome)) :=
  foldl_flag_eq_colFold (fun i => (outIdxsFor out ff).getD i none) (fun (acc : List Sq) o (c : Sq) => acc.set o c)
    cols.zipIdx (out.map (fun _ => none), false)

theorem mapFileCols_snd (out : List Field) (ff : List (Option Field)) (cols : List Sq) :
    (mapFileCols out ff cols).2 = (cols.zipIdx).any (fun ci => ((outIdxsFor out ff).getD ci.2 none).isSome) :=
  congrArg Prod.snd (mapFileCols_colFold out ff cols)

theorem mapFileCols_length (out : List Field) (ff : List (Option Field)) (cols : List Sq) :
    (mapFileCols out ff cols).1.length = out.length := by
  rw [mapFileCols_colFold, colFold_length _ (fun _ _ _ => List.length_set), List.length_map]

/-- `includesAtLeastOneColumn`: a row that stores a column feeding some out position is handed out -/
theorem mapFileCols_inc {out : List Field} {ff : List (Option Field)} {ti j : Nat}
    (h : (outIdxsFor out ff).getD ti none = some j) {cols : List Sq} (hti : ti < cols.length) :
    (mapFileCols out ff cols).2 = true := by
  rw [mapFileCols_snd, List.any_eq_true]
  exact ⟨(cols[ti], ti), List.mem_zipIdx_iff_getElem?.2 (List.getElem?_eq_getElem hti), by rw [h]; rfl⟩

/-- a file row's column at the position that feeds out position `j` is handed out there, untouched -/
theorem mapFileCols_at {out : List Field} {ff : List (Option Field)} {ti j : Nat}
    (h : IdxTie (outIdxsFor out ff) ti j) (hj : j < out.length) (cols : List Sq) :
    (mapFileCols out ff cols).1.getD j none = cols.getD ti none := by
  rw [mapFileCols_colFold, List.getD_eq_getElem?_getD, List.getD_eq_getElem?_getD,
    colFold_hit _ _ set_getElem? _ h.tie h.inj]
  cases cols[ti]? <;> simp [hj]

/-- no file position prints like `out[o]` ⇒ out position `o` stays empty (`nil` sequence) -/
theorem mapFileCols_miss {out : List Field} (ff : List (Option Field))
    (cols : List Sq) (o : Nat) (ho : o < out.length)
    (hno : ∀ (i : Nat) (f : Field), ff[i]? = some (some f) → f.same out[o] = false) :
    (mapFileCols out ff cols).1.getD o none = none := by
  rw [mapFileCols_colFold, List.getD_eq_getElem?_getD, colFold_miss _ _ set_getElem?]
  · simp [ho]
  · intro ci _ e
    obtain ⟨g, hg, _, hgs⟩ := outIdxsFor_some e
    rw [hno _ g hg] at hgs
    cases hgs

theorem modify_getElem? {α : Type} (acc : List α) (o : Nat) (f : α → α) (o' : Nat) :
    (acc.modify o f)[o']? = if o = o' then (acc[o']?).map f else acc[o']? := by
  rw [List.getElem?_modify]
  split <;> simp [*]

theorem mergeMemCols_colFold (out mf : List Field) (res tb : Int) (columns msCols : List Sq) :
    mergeMemCols out mf res tb columns msCols =
      (colFold (fun i => (outIdxsFor out (mf.map some)).getD i none)
        (fun acc o c => acc.modify o (fun cur => Sq.merge (out.getD o default).ex res cur c tb))
        columns msCols.zipIdx,
       msCols.zipIdx.any (fun ci => ((outIdxsFor out (mf.map some)).getD ci.2 none).isSome)) :=
  foldl_flag_eq_colFold (fun i => (outIdxsFor out (mf.map some)).getD i none)
    (fun (acc : List Sq) o (c : Sq) => acc.modify o (fun cur => Sq.merge (out.getD o default).ex res cur c tb))
    msCols.zipIdx (columns, false)

theorem mergeMemCols_snd (out mf : List Field) (res tb : Int) (columns msCols : List Sq) :
    (mergeMemCols out mf res tb columns msCols).2 =
      (msCols.zipIdx).any (fun ci => ((outIdxsFor out (mf.map some)).getD ci.2 none).isSome) :=
  congrArg Prod.snd (mergeMemCols_colFold out mf res tb columns msCols)

theorem mergeMemCols_length (out mf : List Field) (res tb : Int) (columns msCols : List Sq) :
    (mergeMemCols out mf res tb columns msCols).1.length = columns.length := by
  rw [mergeMemCols_colFold, colFold_length _ (fun _ _ _ => List.length_modify ..)]

/-- the series at the memstore position that feeds out position `j` is merged, with `out[j]`'s expression, into out-column `j` (a row too short to have it
    merges nothing) -/
theorem mergeMemCols_at {out mf : List Field} (res tb : Int) {ti j : Nat}
    (h : IdxTie (outIdxsFor out (mf.map some)) ti j) (columns msCols : List Sq) (hj : j < columns.length) :
    (mergeMemCols out mf res tb columns msCols).1.getD j none =
      Sq.merge (out.getD j default).ex res (columns.getD j none) (msCols.getD ti none) tb := by
  rw [mergeMemCols_colFold, List.getD_eq_getElem?_getD,
    colFold_hit _ (fun o c cur => Sq.merge (out.getD o default).ex res cur c tb)
      (fun acc o _ o' => modify_getElem? acc o _ o') _ h.tie h.inj, List.getD_eq_getElem?_getD (l := msCols)]
  cases msCols[ti]? <;> simp [hj, merge_none_right]

/-- no memstore field prints like `out[o]` ⇒ out-column `o` is left as it was -/
theorem mergeMemCols_miss {out : List Field} (mf : List Field)
    (res tb : Int) (columns msCols : List Sq) (o : Nat) (ho : o < out.length)
    (hno : ∀ g ∈ mf, g.same out[o] = false) :
    (mergeMemCols out mf res tb columns msCols).1.getD o none = columns.getD o none := by
  rw [mergeMemCols_colFold, List.getD_eq_getElem?_getD, List.getD_eq_getElem?_getD,
    colFold_miss _ (fun o c cur => Sq.merge (out.getD o default).ex res cur c tb)
      (fun acc o _ o' => modify_getElem? acc o _ o')]
  intro ci _ e
  obtain ⟨g, hg, _, hgs⟩ := outIdxsFor_some e
  rw [List.getElem?_map, Option.map_eq_some_iff] at hg
  obtain ⟨g', hg', hgg⟩ := hg
  cases hgg
  rw [hno g (List.mem_of_getElem? hg')] at hgs
  cases hgs

end Zeno
