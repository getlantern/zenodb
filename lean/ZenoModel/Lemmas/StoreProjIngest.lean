/-
Store ↔ column projection: the invariants (`StoreInv` on reachable stores, `ProjInv` between a
store and the column of one (key, field index)), and `Store.ingest` against the `ColOp`s that
`colOpsOf` emits for the point.  Both sides of a point are first characterised from the clock
alone (`ingest_eq`, `ptOps_fold`).  The trailing `0` of `Sq.updateValue … 0` is the zero time as
`truncateBefore`: an update of the memstore truncates nothing.
-/
import ZenoModel.Model.StoreColumn
import ZenoModel.Lemmas.StoreCols
import ZenoModel.Lemmas.Time
namespace Zeno

structure CfgWF (cfg : TableCfg) : Prop where
  distinct : FieldsDistinct cfg.fields
  res_pos : 0 < cfg.res
  ret_nonneg : 0 ≤ cfg.retention

instance (cfg : TableCfg) : Decidable (CfgWF cfg) :=
  decidable_of_iff (FieldsDistinct cfg.fields ∧ 0 < cfg.res ∧ 0 ≤ cfg.retention)
    ⟨fun ⟨a, b, c⟩ => ⟨a, b, c⟩, fun ⟨a, b, c⟩ => ⟨a, b, c⟩⟩

/-- every point of the script is stamped after Go's zero time -/
def StorePos : List StoreOp → Prop
  | [] => True
  | .ingest p :: r => 0 < p.ts ∧ StorePos r
  | .flush _ :: r => StorePos r

instance : (ops : List StoreOp) → Decidable (StorePos ops)
  | [] => isTrue trivial
  | .ingest p :: r => by
      unfold StorePos
      exact @instDecidableAnd _ _ _ (instDecidableStorePos r)
  | .flush _ :: r => by unfold StorePos; exact instDecidableStorePos r

/-- column `i` of a row that may be missing -/
def optCol (o : Option Row) (i : Nat) : Sq :=
  match o with
  | some r => r.cols.getD i none
  | none => none

/-- column `i` of the row with key `key` -/
def rowCol (rows : List Row) (key : Key) (i : Nat) : Sq :=
  optCol (rows.find? (fun r => r.key == key)) i

/-- the rows of a memstore (a tree: one entry per key) or of a file (sorted by key, written from such
    trees): keys unique, every row as wide as the field list -/
structure RowsOk (n : Nat) (rows : List Row) : Prop where
  uniq : rows.Pairwise (fun a b => a.key ≠ b.key)
  len : ∀ r ∈ rows, r.cols.length = n

/-- `Tree.Update` gives a new row a sequence in every column and `Sequence.UpdateValue` never returns
    the empty one for a point stamped after the zero time -/
def MemSome (rows : List Row) : Prop := ∀ r ∈ rows, ∀ c ∈ r.cols, c ≠ none

/-- structural invariant of every store reachable from `Store.init cfg` -/
structure StoreInv (cfg : TableCfg) (st : Store) : Prop where
  memFields : st.memFields = cfg.fields
  fileFields : st.file = none ∨ st.fileFields = cfg.fields.map some
  memOk : RowsOk cfg.fields.length st.mem
  fileOk : RowsOk cfg.fields.length (st.file.getD [])
  memSome : MemSome st.mem

def ccfgOf (cfg : TableCfg) (i : Nat) : ColCfg :=
  { e := (cfg.fields.getD i default).ex, res := cfg.res, retention := cfg.retention }

/-- the one-column state `c` is the store `st` seen at (key, field `i`) -/
structure ProjInv (st : Store) (key : Key) (i : Nat) (c : Col) : Prop where
  now : c.now = st.now
  mem : c.mem = rowCol st.mem key i
  file : c.file = rowCol (st.file.getD []) key i

theorem ccfgOf_eq (cfg : TableCfg) (i : Nat) (hi : i < cfg.fields.length) :
    ccfgOf cfg i = { e := (cfg.fields[i]).ex, res := cfg.res, retention := cfg.retention } := by
  unfold ccfgOf
  rw [List.getD_eq_getElem?_getD, List.getElem?_eq_getElem hi]
  rfl

theorem rowsOk_nil (n : Nat) : RowsOk n [] := ⟨List.Pairwise.nil, fun _ h => by simp at h⟩

theorem storeInv_init (cfg : TableCfg) : StoreInv cfg (Store.init cfg) :=
  ⟨rfl, Or.inl rfl, rowsOk_nil _, rowsOk_nil _, fun _ h => by simp [Store.init] at h⟩

theorem StoreInv.fileFields_of_mem {cfg : TableCfg} {st : Store} (sinv : StoreInv cfg st) {r : Row}
    (hr : r ∈ st.file.getD []) : st.fileFields = cfg.fields.map some := by
  cases sinv.fileFields with
  | inl h => rw [h] at hr; simp at hr
  | inr h => exact h

theorem optCol_find_len {n : Nat} {mem : List Row} (h : RowsOk n mem) (key : Key) {m : Row}
    (hm : mem.find? (fun r => r.key == key) = some m) : m.cols.length = n :=
  h.len m (List.mem_of_find?_eq_some hm)

theorem find_map_key (f : Row → Row) (hf : ∀ r, (f r).key = r.key) (l : List Row) (key : Key) :
    (l.map f).find? (fun r => r.key == key) = (l.find? (fun r => r.key == key)).map f := by
  rw [List.find?_map]
  congr 2
  funext r
  simp [hf]

theorem find_eq_none_of_not_any {rows : List Row} {key : Key}
    (h : rows.any (fun r => r.key == key) = false) : rows.find? (fun r => r.key == key) = none := by
  rw [List.find?_eq_none]
  intro r hr
  simpa using (List.any_eq_false.mp h) r hr

/-- a memstore row has something in every column: whether the column of a key reads `none`
    says whether the key has a row -/
theorem rowCol_isNone {n : Nat} {mem : List Row} (hok : RowsOk n mem) (hms : MemSome mem) (key : Key)
    (i : Nat) (hi : i < n) :
    (rowCol mem key i).isNone = (mem.find? (fun r => r.key == key)).isNone := by
  unfold rowCol optCol
  cases hm : mem.find? (fun r => r.key == key) with
  | none => rfl
  | some m =>
    have hmem := List.mem_of_find?_eq_some hm
    have hl := optCol_find_len hok key hm
    simp only [List.getD_eq_getElem?_getD, List.getElem?_eq_getElem (show i < m.cols.length by omega),
      Option.getD_some, Option.isNone_some, Option.isNone_eq_false_iff, Option.isSome_iff_ne_none]
    exact hms m hmem _ (List.getElem_mem _)

theorem rowCol_of_mem {rows : List Row} (hu : rows.Pairwise (fun a b => a.key ≠ b.key)) (r : Row) (hr : r ∈ rows)
    (i : Nat) : rowCol rows r.key i = r.cols.getD i none := by
  unfold rowCol optCol
  induction rows with
  | nil => simp at hr
  | cons a l ih =>
    rw [List.pairwise_cons] at hu
    rw [List.mem_cons] at hr
    rcases hr with rfl | hr
    · simp
    · have hne : (a.key == r.key) = false := by simpa using hu.1 r hr
      simp only [List.find?_cons, hne]
      exact ih hu.2 hr

theorem rowCol_of_absent {rows : List Row} {key : Key} (h : ∀ r ∈ rows, r.key ≠ key) (i : Nat) :
    rowCol rows key i = none := by
  unfold rowCol optCol
  rw [List.find?_eq_none.2 (fun r hr => by simpa using h r hr)]

/-- the clock after one point -/
def ptNow (cfg : TableCfg) (now : Int) (p : RawPoint) : Int :=
  if p.ts < now - cfg.retention then now
  else if !p.whereOk then now
  else max now p.ts

/-- is the point turned into rows (`table.insert` + `doInsert`): not too old at clock `now`,
    WHERE satisfied, payload well-formed -/
def ptStored (cfg : TableCfg) (now : Int) (p : RawPoint) : Bool :=
  !(decide (p.ts < now - cfg.retention)) && p.whereOk && !p.panics

/-- the `ColOp`s of an accepted point that brings `rows` to this key: one `ingest` per row, or a
    `tick` when there is none (another key, a panicking payload, no values) -/
def acceptedOps (ts : Int) (p : RawPoint) (rows : List (List (String × Rat))) : List ColOp :=
  if rows.isEmpty then [.tick ts] else rows.map (fun vals => ColOp.ingest ts (mkPt p vals))

/-- the `ColOp`s of one point, from the clock alone -/
def ptOps (cfg : TableCfg) (key : Key) (now : Int) (p : RawPoint) : List ColOp :=
  if p.ts < now - cfg.retention then [.late p.ts]
  else if !p.whereOk then [.late p.ts]
  else acceptedOps p.ts p (if !p.panics && reslice cfg p.dims == key then pointRows p else [])

def rowsFold (x : Ext) (cfg : TableCfg) (fields : List Field) (key : Key) (p : RawPoint)
    (rows : List (List (String × Rat))) (mem : List Row) : List Row :=
  rows.foldl (fun m vals => memUpdate x cfg fields m key p.ts (mkPt p vals)) mem

/-- `Store.ingest` with its decisions named: the clock moves to `ptNow`, the rows are folded into
    the memstore when the point is `ptStored` -/
theorem ingest_eq (x : Ext) (cfg : TableCfg) (st : Store) (p : RawPoint) :
    st.ingest x cfg p =
      ({ st with
          now := ptNow cfg st.now p,
          mem := if ptStored cfg st.now p
            then rowsFold x cfg st.memFields (reslice cfg p.dims) p (pointRows p) st.mem else st.mem },
        ptStored cfg st.now p) := by
  unfold Store.ingest ptNow ptStored
  by_cases hold : p.ts < st.now - cfg.retention
  · simp [hold]
  · cases hw : p.whereOk <;> cases hpan : p.panics <;> simp [hold, rowsFold]

theorem ingest_now (x : Ext) (cfg : TableCfg) (st : Store) (p : RawPoint) :
    (st.ingest x cfg p).1.now = ptNow cfg st.now p := by
  rw [ingest_eq]

theorem colOpsOf_ingest (x : Ext) (cfg : TableCfg) (key : Key) (st : Store) (p : RawPoint)
    (r : List StoreOp) :
    colOpsOf x cfg key st (.ingest p :: r) =
      ptOps cfg key st.now p ++ colOpsOf x cfg key (st.ingest x cfg p).1 r := by
  rw [colOpsOf]
  simp only [ingest_eq]
  congr 1
  unfold ptOps acceptedOps ptNow ptStored
  by_cases hold : p.ts < st.now - cfg.retention
  · simp [hold]
  · cases hw : p.whereOk <;> cases hpan : p.panics <;> simp [hold]
    -- the goal that remains is the stored point
    by_cases hk : reslice cfg p.dims = key <;> by_cases hemp : pointRows p = [] <;> simp [hk, hemp]

theorem colOpsOf_flush (x : Ext) (cfg : TableCfg) (key : Key) (st : Store) (sorted : Bool)
    (r : List StoreOp) :
    colOpsOf x cfg key st (.flush sorted :: r) =
      if st.mem.isEmpty then colOpsOf x cfg key st r
      else ColOp.flush (!(st.flushCount % 10 == 9)) :: colOpsOf x cfg key (st.flush cfg sorted) r := rfl

theorem updateValue0_ne_none (x : Ext) (e : Ex) {res : Int} (h : 0 < res) (s : Sq) (ts : Int)
    (hts : 0 < ts) (p : Pt) : Sq.updateValue x e res s ts p 0 ≠ none := by
  have hr1 := roundUp_ge (t := ts) h
  unfold Sq.updateValue
  generalize roundUp ts res = ts' at *
  simp only [roundUntilUp_zero]
  have hgt : ts' > 0 := by omega
  rw [if_neg (by simpa using hgt)]
  cases s with
  | none => simp
  | some q =>
    simp only
    split
    · simp
    · split <;> simp

def updCols (x : Ext) (cfg : TableCfg) (fields : List Field) (ts : Int) (pt : Pt) (cols : List Sq) : List Sq :=
  (fields.zip cols).map (fun (f, c) => Sq.updateValue x f.ex cfg.res c ts pt 0)

theorem memUpdate_eq (x : Ext) (cfg : TableCfg) (fields : List Field) (mem : List Row) (key : Key)
    (ts : Int) (pt : Pt) :
    memUpdate x cfg fields mem key ts pt =
      if mem.any (fun r => r.key == key) then
        mem.map (fun r => if r.key == key then { r with cols := updCols x cfg fields ts pt r.cols } else r)
      else mem ++ [{ key := key, cols := updCols x cfg fields ts pt (fields.map (fun _ => none)) }] := rfl

theorem updCols_length (x : Ext) (cfg : TableCfg) (fields : List Field) (ts : Int) (pt : Pt)
    (cols : List Sq) (h : cols.length = fields.length) :
    (updCols x cfg fields ts pt cols).length = fields.length := by
  simp [updCols, h]

theorem updCols_getD (x : Ext) (cfg : TableCfg) (fields : List Field) (ts : Int) (pt : Pt)
    (cols : List Sq) (h : cols.length = fields.length) (i : Nat) (hi : i < fields.length) :
    (updCols x cfg fields ts pt cols).getD i none =
      Sq.updateValue x (fields.getD i default).ex cfg.res (cols.getD i none) ts pt 0 := by
  have hz : i < (fields.zip cols).length := by simp; omega
  simp [updCols, List.getD_eq_getElem?_getD, List.getElem?_eq_getElem hz, List.getElem?_eq_getElem hi,
    List.getElem?_eq_getElem (show i < cols.length by omega)]

theorem updCols_some (x : Ext) (cfg : TableCfg) (hres : 0 < cfg.res) (fields : List Field) (ts : Int)
    (hts : 0 < ts) (pt : Pt) (cols : List Sq) : ∀ c ∈ updCols x cfg fields ts pt cols, c ≠ none := by
  intro c hc
  simp only [updCols, List.mem_map] at hc
  obtain ⟨⟨f, c0⟩, _, rfl⟩ := hc
  exact updateValue0_ne_none x f.ex hres c0 ts hts pt

/-- what holds of the columns of every row, of an updated row and of a new row holds of the
    columns of every row afterwards -/
theorem memUpdate_forall (Q : List Sq → Prop) (x : Ext) (cfg : TableCfg) (fields : List Field)
    (mem : List Row) (key : Key) (ts : Int) (pt : Pt) (h : ∀ r ∈ mem, Q r.cols)
    (hupd : ∀ r ∈ mem, Q (updCols x cfg fields ts pt r.cols))
    (hnew : Q (updCols x cfg fields ts pt (fields.map (fun _ => none)))) :
    ∀ r ∈ memUpdate x cfg fields mem key ts pt, Q r.cols := by
  intro r hr
  rw [memUpdate_eq] at hr
  split at hr
  · obtain ⟨r0, hr0, rfl⟩ := List.mem_map.mp hr
    split
    · exact hupd r0 hr0
    · exact h r0 hr0
  · rcases List.mem_append.mp hr with hr | hr
    · exact h r hr
    · rw [List.mem_singleton.mp hr]
      exact hnew

theorem memUpdate_rowsOk (x : Ext) (cfg : TableCfg) (fields : List Field) (mem : List Row) (key : Key)
    (ts : Int) (pt : Pt) (h : RowsOk fields.length mem) :
    RowsOk fields.length (memUpdate x cfg fields mem key ts pt) := by
  refine ⟨?_, memUpdate_forall (fun cols => cols.length = fields.length) x cfg fields mem key ts pt h.len
    (fun r hr => updCols_length x cfg fields ts pt _ (h.len r hr))
    (updCols_length x cfg fields ts pt _ (by simp))⟩
  rw [memUpdate_eq]
  split
  · rw [List.pairwise_map]
    refine h.uniq.imp ?_
    intro a b hab
    by_cases ha : (a.key == key) = true <;> by_cases hb : (b.key == key) = true <;> simp [ha, hb, hab]
  · rename_i hany
    rw [List.pairwise_append]
    refine ⟨h.uniq, List.pairwise_singleton _ _, ?_⟩
    intro a ha b hb hk
    rw [List.mem_singleton.mp hb] at hk
    exact hany (List.any_eq_true.mpr ⟨a, ha, by simp [hk]⟩)

theorem memUpdate_memSome (x : Ext) (cfg : TableCfg) (hres : 0 < cfg.res) (fields : List Field)
    (mem : List Row) (key : Key) (ts : Int) (hts : 0 < ts) (pt : Pt) (h : MemSome mem) :
    MemSome (memUpdate x cfg fields mem key ts pt) :=
  memUpdate_forall (fun cols => ∀ c ∈ cols, c ≠ none) x cfg fields mem key ts pt h
    (fun _ _ => updCols_some x cfg hres fields ts hts pt _) (updCols_some x cfg hres fields ts hts pt _)

theorem memUpdate_rowCol (x : Ext) (cfg : TableCfg) (fields : List Field) (mem : List Row)
    (key key' : Key) (ts : Int) (pt : Pt) (h : RowsOk fields.length mem) (i : Nat) (hi : i < fields.length) :
    rowCol (memUpdate x cfg fields mem key' ts pt) key i =
      if key' = key then Sq.updateValue x (fields.getD i default).ex cfg.res (rowCol mem key i) ts pt 0
      else rowCol mem key i := by
  rw [memUpdate_eq, rowCol, rowCol]
  by_cases hany : mem.any (fun r => r.key == key') = true
  · rw [if_pos hany, find_map_key _ (by intro r; split <;> rfl)]
    cases hf : mem.find? (fun r => r.key == key) with
    | none =>
      have hkk : key' ≠ key := by
        intro hk
        rw [hk, List.any_eq_true] at hany
        obtain ⟨r, hr, hrk⟩ := hany
        exact List.find?_eq_none.mp hf r hr hrk
      rw [if_neg hkk]
      rfl
    | some r =>
      have hk : r.key = key := by simpa using List.find?_some hf
      by_cases hkk : key' = key
      · simp only [Option.map_some, hk, hkk, beq_self_eq_true, if_true, optCol]
        exact updCols_getD x cfg fields ts pt r.cols (optCol_find_len h key hf) i hi
      · simp [hk, hkk, Ne.symm hkk]
  · rw [if_neg hany, List.find?_append]
    by_cases hkk : key' = key
    · rw [hkk] at hany ⊢
      rw [find_eq_none_of_not_any (by simpa using hany)]
      simp only [Option.none_or, List.find?_cons, beq_self_eq_true, if_true, optCol]
      rw [updCols_getD x cfg fields ts pt _ (by simp) i hi, getD_map_const]
    · cases mem.find? (fun r => r.key == key) <;> simp [hkk]

theorem rowsFold_struct (x : Ext) (cfg : TableCfg) (hres : 0 < cfg.res) (fields : List Field) (key : Key)
    (p : RawPoint) (hts : 0 < p.ts) (rows : List (List (String × Rat))) :
    ∀ mem, RowsOk fields.length mem → MemSome mem →
      RowsOk fields.length (rowsFold x cfg fields key p rows mem) ∧
      MemSome (rowsFold x cfg fields key p rows mem) := by
  induction rows with
  | nil => intro mem h1 h2; exact ⟨h1, h2⟩
  | cons v r ih =>
    intro mem h1 h2
    exact ih _ (memUpdate_rowsOk x cfg fields mem key p.ts _ h1)
      (memUpdate_memSome x cfg hres fields mem key p.ts hts _ h2)

theorem ingest_storeInv (x : Ext) (cfg : TableCfg) (hres : 0 < cfg.res) (st : Store) (p : RawPoint)
    (hts : 0 < p.ts) (sinv : StoreInv cfg st) : StoreInv cfg (st.ingest x cfg p).1 := by
  obtain ⟨hmf, hff, hmo, hfo, hms⟩ := sinv
  obtain ⟨s1, s2⟩ := rowsFold_struct x cfg hres cfg.fields (reslice cfg p.dims) p hts (pointRows p)
    st.mem hmo hms
  rw [ingest_eq, hmf]
  refine ⟨rfl, hff, ?_, hfo, ?_⟩
  · show RowsOk _ (if _ then _ else _)
    split
    · exact s1
    · exact hmo
  · show MemSome (if _ then _ else _)
    split
    · exact s2
    · exact hms

/-- the store side of a stored point: the column of (key, i) takes the rows of the point one after
    the other when the point has this key, and is left alone otherwise -/
theorem rowCol_rowsFold (x : Ext) (cfg : TableCfg) (fields : List Field) (key key' : Key) (p : RawPoint)
    (i : Nat) (hi : i < fields.length) (rows : List (List (String × Rat))) :
    ∀ mem, RowsOk fields.length mem →
      rowCol (rowsFold x cfg fields key' p rows mem) key i =
        if key' = key then
          rows.foldl (fun s v => Sq.updateValue x (fields.getD i default).ex cfg.res s p.ts (mkPt p v) 0)
            (rowCol mem key i)
        else rowCol mem key i := by
  induction rows with
  | nil => intro mem _; simp [rowsFold]
  | cons v r ih =>
    intro mem hok
    show rowCol (rowsFold x cfg fields key' p r _) key i = _
    rw [ih _ (memUpdate_rowsOk x cfg fields mem key' p.ts _ hok), memUpdate_rowCol x cfg fields mem key key' p.ts _ hok i hi]
    split <;> rfl

/-- the one use of `0 ≤ retention`: a timestamp accepted at clock `now` is still accepted when the
    clock has moved up to it, so the further rows of an accepted point are accepted too -/
theorem accepted_at_max {retention : Int} (hret : 0 ≤ retention) {now ts : Int}
    (hacc : ¬ ts < now - retention) : ¬ ts < max now ts - retention := by
  omega

/-- the column side of an accepted point: the first `ColOp` moves the clock to the point's timestamp at
    least, after which every further row of the point is accepted at the same clock -/
theorem col_acceptedOps (x : Ext) (ccfg : ColCfg) (hret : 0 ≤ ccfg.retention) (ts : Int) (p : RawPoint)
    (rows : List (List (String × Rat))) :
    ∀ c : Col, ¬ ts < c.now - ccfg.retention →
      (acceptedOps ts p rows).foldl (Col.step x ccfg) c =
        { c with
          mem := rows.foldl (fun s v => Sq.updateValue x ccfg.e ccfg.res s ts (mkPt p v) 0) c.mem,
          now := max c.now ts } := by
  unfold acceptedOps
  induction rows with
  | nil => intro c hacc; simp [Col.step, accepted, hacc]
  | cons v r ih =>
    intro c hacc
    have hstep : Col.step x ccfg c (.ingest ts (mkPt p v)) =
        { c with mem := Sq.updateValue x ccfg.e ccfg.res c.mem ts (mkPt p v) 0, now := max c.now ts } := by
      simp [Col.step, accepted, hacc]
    rw [if_neg (by simp), List.map_cons, List.foldl_cons, hstep]
    cases r with
    | nil => rfl
    | cons v' r' =>
      rw [if_neg (by simp)] at ih
      rw [ih _ (accepted_at_max hret hacc)]
      simp only [List.foldl_cons, Int.max_assoc, Int.max_self]

theorem ptOps_fold (x : Ext) (cfg : TableCfg) (hret : 0 ≤ cfg.retention) (key : Key) (i : Nat)
    (p : RawPoint) (c : Col) :
    (ptOps cfg key c.now p).foldl (Col.step x (ccfgOf cfg i)) c =
      { c with
        now := ptNow cfg c.now p,
        mem := if ptStored cfg c.now p && (reslice cfg p.dims == key) then
            (pointRows p).foldl (fun s v => Sq.updateValue x (ccfgOf cfg i).e cfg.res s p.ts (mkPt p v) 0) c.mem
          else c.mem } := by
  unfold ptOps ptNow ptStored
  by_cases hold : p.ts < c.now - cfg.retention
  · simp [hold, Col.step]
  · cases hw : p.whereOk
    · simp [hold, Col.step]
    · rw [if_neg hold, if_neg (by simp), col_acceptedOps x (ccfgOf cfg i) hret p.ts p _ c hold]
      cases hpan : p.panics <;> by_cases hk : reslice cfg p.dims = key <;> simp [hold, hk, ccfgOf]

/-- `Store.ingest` moves the column of (key, i) as the emitted `ColOp`s say -/
theorem ingest_proj (x : Ext) (cfg : TableCfg) (wf : CfgWF cfg) (st : Store) (p : RawPoint)
    (key : Key) (i : Nat) (hi : i < cfg.fields.length) (c : Col)
    (sinv : StoreInv cfg st) (pinv : ProjInv st key i c) :
    ProjInv (st.ingest x cfg p).1 key i
      ((ptOps cfg key st.now p).foldl (Col.step x (ccfgOf cfg i)) c) := by
  obtain ⟨hn, hm, hf⟩ := pinv
  rw [← hn, ptOps_fold x cfg wf.ret_nonneg, ingest_eq, hn, sinv.memFields]
  refine ⟨rfl, ?_, hf⟩
  show (if _ then _ else _) = rowCol (if _ then _ else _) key i
  cases ptStored cfg st.now p
  · exact hm
  · simp only [Bool.true_and, if_true, beq_iff_eq]
    rw [rowCol_rowsFold x cfg cfg.fields key _ p i hi _ _ sinv.memOk, hm]
    rfl

end Zeno
