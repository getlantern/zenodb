/-
Derived selected expressions: a resolved expression that has state has a closure (a non-nil
sub-merger that survives `bytetree.New`'s de-dup) from some scanned column.
-/
import ZenoModel.Lemmas.DerivedApply
import ZenoModel.Lemmas.DerivedAcc
namespace Zeno

/-- `e` has a closure from some column that `bytetree.New` keeps -/
def HasClosure (e : Ex) (subs : List Ex) : Prop :=
  ∃ j cj, subs[j]? = some cj ∧ FirstCol subs j ∧ ((e.subMergers subs).getD j none).isSome = true

/-- a node (other than a binary one) that resolves to a column whose expression it is -/
theorem hasClosure_matched {n : Ex} {subs : List Ex} {i : Nat} (hm : n.matchIdx subs = some i)
    (hr : (subs[i]? == some n) = true)
    (hsm : n.subMergers subs = subs.map (fun s => if n.sameStr s then some (.direct n) else none)) :
    HasClosure n subs := by
  have hs : subs[i]? = some n := by simpa using hr
  refine ⟨i, n, hs, firstCol_of_matchIdx hm, ?_⟩
  rw [hsm, getD_map_of_getElem? hs _ _, if_pos (sameStr_refl n)]; rfl

theorem hasClosure_wrap {n w : Ex} {subs : List Ex}
    (h : ∀ j, j < subs.length → ((w.subMergers subs).getD j none).isSome = true →
      ((n.subMergers subs).getD j none).isSome = true) :
    HasClosure w subs → HasClosure n subs :=
  fun ⟨j, cj, hj, hf, hs⟩ => ⟨j, cj, hj, hf, h j (List.getElem?_eq_some_iff.mp hj).1 hs⟩

theorem isSome_combinedSM (a b : Option SM) (k : Nat) : (combinedSM a k b).isSome = (a.isSome || b.isSome) := by
  cases a <;> cases b <;> rfl

theorem hasClosure_of_resolved (subs : List Ex) : ∀ (e : Ex), e.resolved subs = true → e.width ≠ 0 →
    HasClosure e subs := by
  intro e
  induction e with
  | field n | const v => exact fun _ hw => absurd rfl hw
  | agg k w _ | avg v w _ _ =>
    intro hr _
    unfold Ex.resolved at hr
    split at hr
    next i hm => exact hasClosure_matched hm hr (by simp only [Ex.subMergers])
    next => cases hr
  | bin op l r ihl ihr =>
    intro hr hw
    cases hm : (Ex.bin op l r).matchIdx subs with
    | some i =>
      simp only [Ex.resolved, hm] at hr
      have hs : subs[i]? = some (Ex.bin op l r) := by simpa using hr
      refine ⟨i, _, hs, firstCol_of_matchIdx hm, ?_⟩
      simp only [getD_subMergers_bin op l r (List.getElem?_eq_some_iff.mp hs).1, hm, if_true, Option.isSome_some]
    | none =>
      simp only [Ex.resolved, hm, Bool.and_eq_true] at hr
      simp only [Ex.width] at hw
      have hsm : ∀ j, j < subs.length → (((Ex.bin op l r).subMergers subs).getD j none).isSome =
          (((l.subMergers subs).getD j none).isSome || ((r.subMergers subs).getD j none).isSome) :=
        fun j hj => by simp only [getD_subMergers_bin op l r hj, hm, isSome_combinedSM]
      by_cases hl : l.width = 0
      · exact hasClosure_wrap (fun j hj h => by rw [hsm j hj, h, Bool.or_true]) (ihr hr.2 (by omega))
      · exact hasClosure_wrap (fun j hj h => by rw [hsm j hj, h, Bool.true_or]) (ihl hr.1 hl)
  | ifE c w ih =>
    intro hr hw
    unfold Ex.resolved at hr
    split at hr
    next i hm => exact hasClosure_matched hm hr (by simp only [Ex.subMergers, matchIdx_any_true hm, if_true])
    next hm =>
      refine hasClosure_wrap (fun j _ => ?_) (ih hr hw)
      simp only [Ex.subMergers, matchIdx_any_false hm, Bool.false_eq_true, if_false, getD_map_optMap,
        Option.isSome_map]
      exact id
  | bounded w lo hi ih | unary f w ih =>
    intro hr hw
    unfold Ex.resolved at hr
    split at hr
    next i hm => exact hasClosure_matched hm hr (by simp only [Ex.subMergers, matchIdx_any_true hm, if_true])
    next hm =>
      refine hasClosure_wrap (fun j _ => ?_) (ih hr hw)
      simp only [Ex.subMergers, matchIdx_any_false hm, Bool.false_eq_true, if_false]
      exact id
  | shift w off _ | ptile id v pe n _ _ => exact fun hr => Bool.noConfusion hr

/-- the closure `core.Group` uses for `e` is non-nil for some column -/
theorem colSM_of_hasClosure {e : Ex} {subs : List Ex} (h : HasClosure e subs) :
    ∃ j, j < subs.length ∧ (colSM e subs j).isSome = true := by
  obtain ⟨j, cj, hj, hf, hs⟩ := h
  have hjl : j < subs.length := (List.getElem?_eq_some_iff.mp hj).1
  refine ⟨j, hjl, ?_⟩
  rw [colSM_eq e subs j cj hj, (dedup_test_iff subs j cj hj).mpr hf]
  exact hs

end Zeno
