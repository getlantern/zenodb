/-
Derived selected expressions, physical spans: which periods are physically present in a sequence
(`covers`), followed through `Truncate`, the two growth steps of `SubMerge`, `SubMerge` itself
(direct sub-merger), `subMergeAll` and the grouped cell of a derived field.  An out period inside the
window is physically present in the accumulator column as soon as it was present before, or one
source physically holds a period of its bucket.
-/
import ZenoModel.Lemmas.DerivedGroup
import ZenoModel.Lemmas.EndToEndFlat
namespace Zeno

theorem truncUntil_covers {r : Int} (h : 0 < r) (q : Seq) (h' T : Int) (hg : (q.hi - h') % r = 0)
    (hT : T ≤ h') (hc : covers q r T) :
    ∃ r0, truncUntil q r h' = some r0 ∧ covers r0 r T ∧ (q.hi - r0.hi) % r = 0 := by
  unfold truncUntil
  simp only [exact_tdiv h hg]
  have hx := Int.ediv_mul_cancel_of_emod_eq_zero hg
  split
  · split
    · have hlt : (q.hi - h') / r < (q.cells.length : Int) := by
        apply Int.lt_of_mul_lt_mul_right (a := r) _ (Int.le_of_lt h)
        unfold covers at hc; omega
      rw [if_neg (by omega)]
      refine ⟨_, rfl, ?_, hg⟩
      unfold covers at hc ⊢
      simp only [List.length_drop]
      have hcast : (((q.cells.length - ((q.hi - h') / r).toNat : Nat)) : Int) =
          (q.cells.length : Int) - (q.hi - h') / r := by omega
      rw [hcast, Int.sub_mul]
      omega
    · exact ⟨q, rfl, hc, by simp⟩
  · exact ⟨q, rfl, hc, by simp⟩

theorem truncAsOf_covers {r : Int} (h : 0 < r) (r0 : Seq) (a' T : Int) (hg : (r0.hi - a') % r = 0)
    (hT : a' < T) (hc : covers r0 r T) : ∃ q', truncAsOf r0 r a' = some q' ∧ covers q' r T := by
  unfold truncAsOf
  simp only [exact_tdiv h hg]
  have hx := Int.ediv_mul_cancel_of_emod_eq_zero hg
  split
  · have hm : 0 < (r0.hi - a') / r := by
      apply Int.lt_of_mul_lt_mul_right (a := r) _ (Int.le_of_lt h)
      unfold covers at hc; omega
    rw [if_neg (by omega)]
    split
    · exact ⟨r0, rfl, hc⟩
    · refine ⟨_, rfl, ?_⟩
      unfold covers at hc ⊢
      simp only [List.length_take]
      have hcast : ((min ((r0.hi - a') / r).toNat r0.cells.length : Nat) : Int) = (r0.hi - a') / r := by omega
      rw [hcast]
      omega
  · exact ⟨r0, rfl, hc⟩

theorem truncate_covers {r : Int} (h : 0 < r) (q : Seq) (a b T : Int) (ha0 : a ≠ 0) (hb0 : b ≠ 0)
    (hg : (q.hi - T) % r = 0) (ha : a < T) (hb : T ≤ b) (hc : covers q r T) :
    ∃ q', Sq.truncate (some q) r a b = some q' ∧ covers q' r T := by
  obtain ⟨b1, _, b3⟩ := roundUntilDown_bounds (t := b) (hi := q.hi) h hb0
  obtain ⟨a1, a2, _⟩ := roundUntilDown_bounds (t := a) (hi := q.hi) h ha0
  rw [truncate_eq]
  obtain ⟨r0, h1, h2, h3⟩ := truncUntil_covers h q (roundUntilDown b r q.hi) T b1
    (le_of_grid_lt (grid_trans (grid_symm hg) b1) (by omega)) hc
  rw [h1]
  exact truncAsOf_covers h r0 (roundUntilDown a r q.hi) T (grid_trans (grid_symm h3) a1) (by omega) h2

theorem smPrepend_covers {e : Ex} {res : Int} (h : 0 < res) (nu : Int) (r : Seq) (T : Int)
    (hg : (nu - r.hi) % res = 0) (hc : covers r res T) : covers (smPrepend e res nu (some r)) res T := by
  have hl := covers_len_pos hc
  simp only [smPrepend]
  rw [if_neg (by omega), exact_tdiv h hg]
  have hx := Int.ediv_mul_cancel_of_emod_eq_zero hg
  split
  · rename_i hpos
    unfold covers at hc ⊢
    simp only [List.length_append, List.length_replicate, Int.natCast_add]
    have hdn : (((nu - r.hi) / res).toNat : Int) = (nu - r.hi) / res := Int.toNat_of_nonneg (by omega)
    rw [hdn, Int.add_mul]
    have : 0 < (nu - r.hi) / res * res := Int.mul_pos hpos h
    omega
  · exact hc

theorem smAppend_covers {e : Ex} {res : Int} (otherAsOf : Int) (r1 : Seq) (T : Int) (h : 0 < res)
    (hc : covers r1 res T) : covers (smAppend e res otherAsOf r1) res T := by
  unfold smAppend
  simp only
  split
  · unfold covers at hc ⊢
    simp only [List.length_append, List.length_replicate, Int.natCast_add, Int.add_mul]
    have : 0 ≤ ((((roundUntilUp (Sq.asOf (some r1) res) res r1.hi - roundUntilDown otherAsOf res r1.hi).tdiv res).toNat : Nat) : Int) * res :=
      Int.mul_nonneg (by omega) (Int.le_of_lt h)
    omega
  · exact hc

theorem covers_smBody (e : Ex) (res otherRes : Int) (result : Sq) (otherAsOf : Int) (o0 : Seq) (p : Pt) (hi T : Int) :
    covers (smBody e res otherRes result otherAsOf o0 p hi) res T ↔
      covers (smAppend e res otherAsOf (smPrepend e res (roundUntilUp o0.hi res hi) result)) res T := by
  unfold smBody smBodyG covers
  simp only [length_subMergeLoop]

theorem smBody_covers_recv {e : Ex} {res otherRes : Int} (hres : 0 < res) (r : Seq) (otherAsOf : Int) (o0 : Seq)
    (p : Pt) (hi T : Int) (hU : o0.hi ≠ 0) (hg : (hi - r.hi) % res = 0) (hc : covers r res T) :
    covers (smBody e res otherRes (some r) otherAsOf o0 p hi) res T := by
  obtain ⟨g, _, _⟩ := roundUntilUp_bounds (t := o0.hi) (hi := hi) hres hU
  exact (covers_smBody ..).mpr
    (smAppend_covers otherAsOf _ T hres (smPrepend_covers hres _ r T (grid_trans (grid_symm g) hg) hc))

theorem smBody_covers_src {e : Ex} {res otherRes : Int} (hres : 0 < res) (result : Sq) (otherAsOf : Int) (o0 : Seq)
    (p : Pt) (hi T : Int) (hU : 0 < o0.hi) (hoa : 0 < otherAsOf) (hwr : SqWF e result)
    (hgr : ∀ r, result = some r → (hi - r.hi) % res = 0) (hT : (hi - T) % res = 0)
    (h1 : otherAsOf < T) (h2 : T < o0.hi + res) :
    covers (smBody e res otherRes result otherAsOf o0 p hi) res T := by
  rw [covers_smBody]
  obtain ⟨_, _, f3, f4, f5, _⟩ := smFrame_spec hres result otherAsOf o0.hi hi hU hoa hwr hgr
  exact ⟨by omega, le_of_grid_lt (grid_trans (grid_symm hT) f4) (by omega)⟩

theorem subMerge_covers {e : Ex} (hs : e.shiftOf = 0)
    {res otherRes : Int} {k : Nat} {asOf hi : Int} (w : SMWindow res otherRes k asOf hi)
    (s other : Sq) (p : Pt) (ho : SqOk otherRes other) (hwo : SqWF e other) (hg : RecvGrid e res hi s)
    (T : Int) (hT : (hi - T) % res = 0) (hW : asOf < T ∧ T ≤ hi) :
    (sqCovers s res T → sqCovers (Sq.subMerge e e (.direct e) res otherRes s other p asOf hi 0) res T) ∧
    ((∃ t ∈ bucketTimes otherRes k asOf hi T, sqCovers other otherRes t) →
      sqCovers (Sq.subMerge e e (.direct e) res otherRes s other p asOf hi 0) res T) := by
  have hres := w.resPos
  have hap := w.asOfPos
  have hlt := w.asOfLt
  rw [subMerge_direct_eq e hs]
  cases other with
  | none => exact ⟨id, fun ⟨_, _, _, h, _⟩ => by cases h⟩
  | some ob =>
    -- a held period `t` of the bucket survives the truncation of the source
    have hsrc : ∀ tr, Sq.truncate (some ob) otherRes asOf hi = tr →
        (∃ t ∈ bucketTimes otherRes k asOf hi T, sqCovers (some ob) otherRes t) →
        ∃ t o0, tr = some o0 ∧ covers o0 otherRes t ∧ covers ob otherRes t ∧ T - res < t ∧ t ≤ T := by
      rintro _ rfl ⟨t, ht, _, hob, hc⟩
      cases hob
      obtain ⟨f1, f2, f3⟩ := (mem_bucketTimes_iff w T t hT).mp ht
      obtain ⟨o0, h1, h2⟩ := truncate_covers w.otherResPos ob asOf hi t (by omega)
        (by omega) (emod_sub_of ho.aligned f1) f2.1 f2.2 hc
      exact ⟨t, o0, h1, h2, hc, f3⟩
    cases htr : Sq.truncate (some ob) otherRes asOf hi with
    | none =>
      refine ⟨id, fun h => ?_⟩
      obtain ⟨_, _, h1, _⟩ := hsrc _ htr h
      cases h1
    | some o0 =>
      simp only
      by_cases hl : o0.cells.length = 0
      · rw [if_pos hl]
        refine ⟨id, fun h => ?_⟩
        obtain ⟨_, _, h1, h2, _⟩ := hsrc _ htr h
        cases h1
        exact absurd hl (Nat.ne_of_gt (covers_len_pos h2))
      · rw [if_neg hl]
        obtain ⟨v1, v2⟩ := recv_truncate_inv hres s hg asOf hi
        obtain ⟨hU, _, _, hoa, _⟩ := truncated_source_facts e w ob o0 ho hwo htr
        constructor
        · rintro ⟨q, rfl, hc⟩
          obtain ⟨q', h1, h2⟩ := truncate_covers hres q asOf hi T (by omega) (by omega)
            (grid_trans (grid_symm hg.1) hT) hW.1 hW.2 hc
          rw [h1] at v2 ⊢
          exact ⟨_, rfl, smBody_covers_recv hres q' _ o0 p hi T (by omega) (v2 q' rfl) h2⟩
        · intro h
          obtain ⟨t, _, h1, h2, hc, f3, f4⟩ := hsrc _ htr h
          cases h1
          refine ⟨_, rfl, smBody_covers_src hres _ _ o0 p hi T hU hoa v1 v2 hT ?_
            (by have := h2.2; omega)⟩
          split
          · exact hW.1
          · exact Int.lt_of_lt_of_le hc.1 f4

theorem subMergeAll_covers {e : Ex} (hv : e.valid = true) (hp : e.noPtile = true) (hs : e.shiftOf = 0)
    {res otherRes : Int} {k : Nat} {asOf hi : Int} (w : SMWindow res otherRes k asOf hi) (T : Int)
    (hT : (hi - T) % res = 0) (hW : asOf < T ∧ T ≤ hi) :
    ∀ (srcs : List Src) (init : Sq), (∀ op ∈ srcs, SqOk otherRes op.1 ∧ SqWF e op.1) →
      RecvGrid e res hi init → InWindow e res asOf hi init →
      (sqCovers init res T ∨ ∃ op ∈ srcs, ∃ t ∈ bucketTimes otherRes k asOf hi T, sqCovers op.1 otherRes t) →
      sqCovers (subMergeAll e res otherRes asOf hi srcs init) res T := by
  intro srcs
  induction srcs with
  | nil =>
    intro init _ _ _ h
    rcases h with h | ⟨op, hop, _⟩
    · exact h
    · simp at hop
  | cons op srcs ih =>
    intro init hall hg hin h
    obtain ⟨ho, hwo⟩ := hall op (by simp)
    obtain ⟨ig, iin⟩ := subMerge_inv_lem hv hp hs w init op.1 op.2 ho hwo hg hin
    obtain ⟨ca, cb⟩ := subMerge_covers hs w init op.1 op.2 ho hwo hg T hT hW
    simp only [subMergeAll, List.foldl_cons]
    apply ih _ (fun o ho' => hall o (by simp [ho'])) ig iin
    rcases h with h | ⟨op', hop', t, ht, hc⟩
    · exact Or.inl (ca h)
    · rw [List.mem_cons] at hop'
      rcases hop' with rfl | hop'
      · exact Or.inl (cb ⟨t, ht, hc⟩)
      · exact Or.inr ⟨op', hop', t, ht, hc⟩

theorem sqCovers_mapSq (g : List Cell → List Cell) (s : Sq) (res T : Int) (h : sqCovers s res T) :
    sqCovers (mapSq g s) res T := by
  obtain ⟨q, rfl, hc⟩ := h
  refine ⟨mapSeq g q, rfl, ?_⟩
  unfold covers at *
  simpa [mapSeq] using hc

/-- the grouped cell of a derived field physically holds the out period `T` as soon as a member row
    physically holds a period of the bucket in a column that has a closure -/
theorem groupCell_covers {cfg : TableCfg} {now : Int} {q : Query} {pl : Plan} {inFields : List Field}
    {rows : List Row} {kk i : Nat} {f : Field} (H : DerivedCell cfg now q pl inFields rows kk i f)
    (metas : List KeyMeta) (k : Key) (T : Int) (hT : (gUntilOf cfg now pl - T) % gResOf cfg pl = 0)
    (hW : gAsOfOf cfg now pl < T ∧ T ≤ gUntilOf cfg now pl)
    (r : Row) (hr : r ∈ groupMembers q rows k) (j : Nat) (hj : j < (inFields.map (·.ex)).length)
    (hsm : (colSM f.ex (inFields.map (·.ex)) j).isSome = true)
    (t : Int) (ht : t ∈ bucketTimes cfg.res kk (gAsOfOf cfg now pl) (gUntilOf cfg now pl) T)
    (hc : sqCovers (r.cols.getD j none) cfg.res t) :
    sqCovers (groupCell cfg now q pl inFields metas rows k i) (gResOf cfg pl) T := by
  rw [groupCell_derived H metas k]
  apply subMergeAll_covers H.valid H.noPtile H.noShift H.window T hT hW _ none
    (derivedSrcs_ok H metas k) trivial (fun _ _ => rfl)
  right
  obtain ⟨sm, hs⟩ := Option.isSome_iff_exists.mp hsm
  refine ⟨(mapSq (colImage f.ex (inFields.map (·.ex)) j (rowPt metas r)) (r.cols.getD j none), rowPt metas r), ?_,
    t, ht, sqCovers_mapSq _ _ _ _ hc⟩
  unfold derivedSrcs rowSrcs
  apply List.mem_flatMap.mpr ⟨r, hr, ?_⟩
  apply List.mem_filterMap.mpr ⟨j, List.mem_range.mpr hj, ?_⟩
  simp only [colSrc, hs, Option.map_some]

end Zeno
