/-
Lemmas about M-TIME: the arithmetic of grids of step `res`, and what the rounding functions
of encoding/time.go compute.  All for a positive resolution.
-/
import ZenoModel.Model.Time

namespace Zeno

/-! `(a - b) % m = 0`: `a` and `b` lie on one grid of step `m` -/

theorem emod_sub_of {a b m : Int} (ha : a % m = 0) (hb : b % m = 0) : (a - b) % m = 0 := by
  rw [Int.sub_emod, ha, hb]; simp

theorem grid_symm {a b m : Int} (h : (a - b) % m = 0) : (b - a) % m = 0 := by
  have : b - a = 0 - (a - b) := by omega
  rw [this]
  exact emod_sub_of (Int.zero_emod m) h

theorem grid_trans {a b c m : Int} (h1 : (a - b) % m = 0) (h2 : (b - c) % m = 0) : (a - c) % m = 0 := by
  have : a - c = (a - b) - (c - b) := by omega
  rw [this]
  exact emod_sub_of h1 (grid_symm h2)

theorem emod_of_mul {x m : Int} (k : Int) (hx : x % (k * m) = 0) : x % m = 0 := by
  have : x % m = (x % (k * m)) % m := (Int.emod_emod_of_dvd x ⟨k, Int.mul_comm k m⟩).symm
  rw [this, hx]; simp

theorem grid_gap {a res : Int} (hm : a % res = 0) (hp : 0 < a) : res ≤ a :=
  Int.le_of_dvd hp (Int.dvd_of_emod_eq_zero hm)

/-- used twice it makes two grid points less than a step apart equal -/
theorem le_of_grid_lt {a b res : Int} (hg : (a - b) % res = 0) (hlt : a < b + res) : a ≤ b :=
  Int.not_lt.mp fun hc => by
    have := Int.le_of_dvd (Int.sub_pos.mpr hc) (Int.dvd_of_emod_eq_zero hg)
    omega

theorem grid_index {a b res : Int} (h : 0 < res) (hg : (a - b) % res = 0) (hle : b ≤ a) :
    ∃ k : Nat, a - b = k * res := by
  refine ⟨((a - b) / res).toNat, ?_⟩
  rw [Int.toNat_of_nonneg (Int.ediv_nonneg (by omega) (Int.le_of_lt h))]
  exact (Int.ediv_mul_cancel_of_emod_eq_zero hg).symm

theorem natCast_add_mul (a b : Nat) (r : Int) : ((a + b : Nat) : Int) * r = a * r + b * r := by
  rw [Int.natCast_add, Int.add_mul]

theorem natCast_mul_nonneg (k : Nat) {res : Int} (h : 0 < res) : 0 ≤ (k : Int) * res :=
  Int.mul_nonneg (Int.natCast_nonneg k) (Int.le_of_lt h)

theorem natCast_mul_lt {res : Int} (h : 0 < res) {a b : Nat} : (a : Int) * res < b * res ↔ a < b := by
  rw [Int.mul_lt_mul_right h, Int.ofNat_lt]

theorem natCast_mul_le {res : Int} (h : 0 < res) {a b : Nat} : (a : Int) * res ≤ b * res ↔ a ≤ b := by
  rw [Int.mul_le_mul_right h, Int.ofNat_le]

theorem natCast_mul_inj {res : Int} (h : 0 < res) {a b : Nat} : (a : Int) * res = b * res ↔ a = b := by
  rw [Int.mul_eq_mul_right_iff (Int.ne_of_gt h), Int.natCast_inj]

theorem sub_natCast_mul_lt {res : Int} (h : 0 < res) (s : Int) (a b : Nat) :
    s - (a : Int) * res < s - b * res ↔ b < a := by
  rw [Int.sub_lt_sub_left_iff, natCast_mul_lt h]

theorem mul_tdiv_self {res : Int} (h : 0 < res) (k : Int) : (k * res).tdiv res = k :=
  Int.mul_tdiv_cancel _ (Int.ne_of_gt h)

theorem exact_tdiv {x res : Int} (h : 0 < res) (hm : x % res = 0) : x.tdiv res = x / res := by
  rw [← Int.ediv_mul_cancel (Int.dvd_of_emod_eq_zero hm), mul_tdiv_self h, Int.mul_ediv_cancel _ (Int.ne_of_gt h)]

theorem tdiv_nonpos_of {a b : Int} (ha : a ≤ 0) (hb : 0 < b) : a.tdiv b ≤ 0 := by
  have := Int.tdiv_nonneg (a := -a) (by omega) (Int.le_of_lt hb)
  rw [Int.neg_tdiv] at this
  omega

/-- the whole steps from `b` up to `a` as the code counts them: between grid points the exact
    number, and none when `a` is not after `b` -/
theorem grid_tdiv {a b res : Int} (h : 0 < res) (hg : (a - b) % res = 0) :
    (a ≤ b ∧ (a - b).tdiv res ≤ 0) ∨ ∃ n : Nat, 0 < n ∧ a - b = n * res ∧ (a - b).tdiv res = n := by
  by_cases hle : a ≤ b
  · exact Or.inl ⟨hle, tdiv_nonpos_of (by omega) h⟩
  · obtain ⟨n, hn⟩ := grid_index h hg (by omega)
    have := natCast_mul_lt h (a := 0) (b := n)
    exact Or.inr ⟨n, by omega, hn, by rw [hn, mul_tdiv_self h]⟩

theorem goRound_eq {t res : Int} (h : 0 < res) :
    goRound t res = if t % res + t % res < res then t - t % res else t + (res - t % res) := by
  unfold goRound
  rw [if_neg (by omega)]

/-- closed form of RoundTimeUp -/
theorem roundUp_eq {t res : Int} (h : 0 < res) :
    roundUp t res = if t % res = 0 then t else t - t % res + res := by
  unfold roundUp
  rw [goRound_eq h]
  have h1 := Int.emod_nonneg t (Int.ne_of_gt h)
  have h2 := Int.emod_lt_of_pos t h
  simp only
  split <;> split <;> split <;> omega

/-- closed form of RoundTimeDown -/
theorem roundDown_eq {t res : Int} (h : 0 < res) : roundDown t res = t - t % res := by
  unfold roundDown
  rw [goRound_eq h]
  have h1 := Int.emod_nonneg t (Int.ne_of_gt h)
  have h2 := Int.emod_lt_of_pos t h
  simp only
  split <;> split <;> omega

theorem sub_emod_self_emod (t res : Int) : (t - t % res) % res = 0 :=
  Int.emod_eq_zero_of_dvd (Int.dvd_self_sub_emod)

theorem roundUp_mod {t res : Int} (h : 0 < res) : roundUp t res % res = 0 := by
  rw [roundUp_eq h]
  split
  · assumption
  · rw [Int.add_emod_right]
    exact sub_emod_self_emod t res

theorem roundUp_ge {t res : Int} (h : 0 < res) : t ≤ roundUp t res := by
  rw [roundUp_eq h]
  have h2 := Int.emod_lt_of_pos t h
  split <;> omega

theorem roundUp_lt {t res : Int} (h : 0 < res) : roundUp t res < t + res := by
  rw [roundUp_eq h]
  have h1 := Int.emod_nonneg t (Int.ne_of_gt h)
  split <;> omega

/-- `roundUp t res` is the least multiple of `res` that is `≥ t` (with `roundUp_mod`, `roundUp_ge`) -/
theorem roundUp_least {t res m : Int} (h : 0 < res) (hm : m % res = 0) (hge : t ≤ m) :
    roundUp t res ≤ m :=
  le_of_grid_lt (emod_sub_of (roundUp_mod h) hm) (by have := roundUp_lt (t := t) h; omega)

theorem roundUp_idem {t res : Int} (h : 0 < res) : roundUp (roundUp t res) res = roundUp t res := by
  rw [roundUp_eq h (t := roundUp t res), if_pos (roundUp_mod h)]

theorem roundUp_mono {a b res : Int} (h : 0 < res) (hab : a ≤ b) : roundUp a res ≤ roundUp b res :=
  roundUp_least h (roundUp_mod h) (Int.le_trans hab (roundUp_ge h))

theorem roundDown_mod {t res : Int} (h : 0 < res) : roundDown t res % res = 0 := by
  rw [roundDown_eq h]
  exact sub_emod_self_emod t res

theorem roundDown_le {t res : Int} (h : 0 < res) : roundDown t res ≤ t := by
  rw [roundDown_eq h]; have := Int.emod_nonneg t (Int.ne_of_gt h); omega

theorem roundDown_gt {t res : Int} (h : 0 < res) : t - res < roundDown t res := by
  rw [roundDown_eq h]; have := Int.emod_lt_of_pos t h; omega

/-- the out period of a native period end `t` on the grid of step `P` anchored at `hi` -/
def outPeriod (hi P t : Int) : Int := hi - ((hi - t) / P) * P

theorem outPeriod_spec {hi P t : Int} (h : 0 < P) :
    (hi - outPeriod hi P t) % P = 0 ∧ outPeriod hi P t - P < t ∧ t ≤ outPeriod hi P t := by
  unfold outPeriod
  have h1 := Int.emod_nonneg (hi - t) (Int.ne_of_gt h)
  have h2 := Int.emod_lt_of_pos (hi - t) h
  have h3 := Int.mul_ediv_add_emod (hi - t) P
  have hc : (hi - t) / P * P = P * ((hi - t) / P) := Int.mul_comm _ _
  refine ⟨?_, by omega, by omega⟩
  rw [Int.sub_sub_self]
  exact Int.mul_emod_left _ _

/-- out periods are disjoint and each native period falls in exactly one: any grid point `T`
    (anchored at `hi`) whose period `(T − P, T]` contains `t` is `outPeriod hi P t` -/
theorem outPeriod_unique {hi P t T : Int} (h : 0 < P) (hg : (hi - T) % P = 0) (h1 : T - P < t) (h2 : t ≤ T) :
    T = outPeriod hi P t := by
  obtain ⟨g, a, b⟩ := outPeriod_spec (hi := hi) (P := P) (t := t) h
  have := le_of_grid_lt (grid_trans (grid_symm hg) g) (show T < outPeriod hi P t + P by omega)
  have := le_of_grid_lt (grid_trans (grid_symm g) hg) (show outPeriod hi P t < T + P by omega)
  omega

theorem cdiv_spec {x r : Int} (h : 0 < r) : (cdiv x r - 1) * r < x ∧ x ≤ cdiv x r * r := by
  unfold cdiv
  have h1 := Int.emod_nonneg (-x) (Int.ne_of_gt h)
  have h2 := Int.emod_lt_of_pos (-x) h
  have h3 := Int.mul_ediv_add_emod (-x) r
  have e1 : (-(-x / r) - 1) * r = -(r * (-x / r)) - r := by
    rw [Int.sub_mul, Int.neg_mul, Int.mul_comm]; omega
  have e2 : -(-x / r) * r = -(r * (-x / r)) := by rw [Int.neg_mul, Int.mul_comm]
  rw [e1, e2]
  omega

/-- anchored at a non-zero `hi`, `RoundTimeUntilUp` is the bucket function of C06: `Sequence.SubMerge`
    takes the source's `until` to the end of its out period -/
theorem roundUntilUp_eq_outPeriod {t res hi : Int} (ht : t ≠ 0) (hh : hi ≠ 0) :
    roundUntilUp t res hi = outPeriod hi res t := by
  unfold roundUntilUp outPeriod
  rw [if_neg ht, if_neg hh]

/-- a non-zero `t` is rounded up to the next point of the grid anchored at `hi` (for `hi = 0`, the zero
    time, the absolute grid) -/
theorem roundUntilUp_bounds {t res hi : Int} (h : 0 < res) (ht : t ≠ 0) :
    (hi - roundUntilUp t res hi) % res = 0 ∧ t ≤ roundUntilUp t res hi ∧ roundUntilUp t res hi < t + res := by
  by_cases hh : hi = 0
  · subst hh
    rw [show roundUntilUp t res 0 = roundUp t res by unfold roundUntilUp; rw [if_neg ht, if_pos rfl]]
    exact ⟨emod_sub_of (Int.zero_emod res) (roundUp_mod h), roundUp_ge h, roundUp_lt h⟩
  · rw [roundUntilUp_eq_outPeriod ht hh]
    obtain ⟨hg, hlo, hup⟩ := outPeriod_spec (hi := hi) (t := t) h
    exact ⟨hg, hup, by omega⟩

theorem roundUntilUp_zero (res hi : Int) : roundUntilUp 0 res hi = 0 := by
  simp [roundUntilUp]

theorem roundUntilDown_zero (res hi : Int) : roundUntilDown 0 res hi = 0 := by
  simp [roundUntilDown]

/-- a bound rounded up on the grid of `hi` does not pass a grid point above it -/
theorem roundUntilUp_le_live {res tb hi T : Int} (h : 0 < res) (hhi : hi % res = 0)
    (hT : T % res = 0) (hgt : T > tb) : roundUntilUp tb res hi ≤ T := by
  by_cases htb : tb = 0
  · rw [htb, roundUntilUp_zero]
    omega
  · obtain ⟨hg, _, hlt⟩ := roundUntilUp_bounds (hi := hi) h htb
    exact le_of_grid_lt (grid_trans (grid_symm hg) (emod_sub_of hhi hT)) (by omega)

theorem roundUntilDown_bounds {t res hi : Int} (h : 0 < res) (ht : t ≠ 0) :
    (hi - roundUntilDown t res hi) % res = 0 ∧ roundUntilDown t res hi ≤ t ∧ t - res < roundUntilDown t res hi := by
  unfold roundUntilDown
  rw [if_neg ht]
  split
  · rename_i hh
    subst hh
    exact ⟨emod_sub_of (Int.zero_emod res) (roundDown_mod h), roundDown_le h, roundDown_gt h⟩
  · have ⟨c1, c2⟩ := cdiv_spec (x := hi - t) h
    refine ⟨?_, by omega, by rw [Int.sub_mul] at c1; omega⟩
    rw [Int.sub_sub_self]
    exact Int.mul_emod_left _ _

theorem roundUntilDown_grid {t res hi : Int} (h : 0 < res) :
    roundUntilDown t res hi = 0 ∨ (hi - roundUntilDown t res hi) % res = 0 := by
  by_cases ht : t = 0
  · left; rw [ht, roundUntilDown_zero]
  · exact Or.inr (roundUntilDown_bounds h ht).1

theorem roundUntilDown_aligned {t res hi : Int} (h : 0 < res) (ht : t ≠ 0)
    (hal : (hi - t) % res = 0) : roundUntilDown t res hi = t := by
  obtain ⟨hg, hle, hgt⟩ := roundUntilDown_bounds (hi := hi) h ht
  have := le_of_grid_lt (grid_trans (grid_symm hal) hg) (show t < roundUntilDown t res hi + res by omega)
  omega

theorem roundUntilUp_aligned {t res hi : Int} (hh : hi ≠ 0) (hal : (hi - t) % res = 0) :
    roundUntilUp t res hi = t := by
  unfold roundUntilUp
  by_cases ht : t = 0
  · simp [ht]
  · simp only [ht, hh, if_false]
    have := Int.ediv_mul_cancel_of_emod_eq_zero hal
    omega

end Zeno
