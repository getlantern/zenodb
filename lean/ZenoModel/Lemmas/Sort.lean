/-
Lemmas about the functions of Model/Sort.lean that do not mention the specification of C09:
LIMIT/OFFSET, the insertion sort (its result is a permutation and is `SortedBy` a relation that is a
weak order on the rows met: `isortBy_perm`, `isortBy_sorted`), strict weak orders given as Bool relations
(`StrictWeak`) with their closure under `comap` and lexicographic composition, and the order of two
values of one dynamic type as a lexicographic order of three keys (`valLt`).
-/
import ZenoModel.Model.Sort

namespace Zeno.SortLemmas
open Zeno

theorem cmp3_eq {α : Type} [LT α] [LE α] [DecidableLT α] [Std.IsLinearOrder α] [Std.LawfulOrderLT α]
    (a b : α) : cmp3 a b = if a < b then -1 else if b < a then 1 else 0 := by
  unfold cmp3
  by_cases h : b < a
  · simp [h, Std.not_gt_of_lt h]
  · simp [h]

theorem flatIterate_collect (out xs : List FlatRow) :
    flatIterate collectCb out xs = out ++ xs := by
  induction xs generalizing out with
  | nil => simp [flatIterate]
  | cons r rs ih => simp [flatIterate, collectCb, ih]

/-- `Limit` in front of any downstream callback behaves like feeding that callback the first
    `lim - idx` rows. -/
theorem flatIterate_limitCb {σ : Type} (lim : Nat) (cb : OnRow σ) (idx : Nat) (s : σ)
    (xs : List FlatRow) :
    (flatIterate (limitCb lim cb) (idx, s) xs).2 = flatIterate cb s (xs.take (lim - idx)) := by
  induction xs generalizing idx s with
  | nil => simp [flatIterate]
  | cons r rs ih =>
    by_cases h : idx < lim
    · rw [show lim - idx = (lim - (idx + 1)) + 1 by omega, List.take_succ_cons]
      simp only [flatIterate, limitCb, h, if_true]
      rcases cb s r with ⟨s', _ | _⟩
      · rfl
      · exact ih (idx + 1) s'
    · simp [flatIterate, limitCb, h, show lim - idx = 0 by omega]

/-- `Offset` in front of any downstream callback behaves like feeding that callback the rows
    after the first `off - idx`. -/
theorem flatIterate_offsetCb {σ : Type} (off : Nat) (cb : OnRow σ) (idx : Nat) (s : σ)
    (xs : List FlatRow) :
    (flatIterate (offsetCb off cb) (idx, s) xs).2 = flatIterate cb s (xs.drop (off - idx)) := by
  induction xs generalizing idx s with
  | nil => simp [flatIterate]
  | cons r rs ih =>
    by_cases h : idx ≥ off
    · have e : off - idx = 0 := by omega
      have ih' := ih (idx + 1)
      rw [show off - (idx + 1) = 0 by omega] at ih'
      simp only [flatIterate, offsetCb, h, if_true, e, List.drop_zero]
      rcases cb s r with ⟨s', _ | _⟩
      · rfl
      · exact ih' s'
    · rw [show off - idx = (off - (idx + 1)) + 1 by omega, List.drop_succ_cons]
      simp [flatIterate, offsetCb, h, ih]

theorem limitOffset_eq (n m : Nat) (xs : List FlatRow) :
    limitOffset n m xs = if n = 0 then xs.drop m else (xs.drop m).take n := by
  unfold limitOffset
  rcases Nat.eq_zero_or_pos m with rfl | hm <;> rcases Nat.eq_zero_or_pos n with rfl | hn <;>
    simp [*, flatIterate_offsetCb, flatIterate_limitCb, flatIterate_collect, Nat.ne_of_gt]

theorem insertBy_perm (lt : FlatRow → FlatRow → Bool) (x : FlatRow) (ys : List FlatRow) :
    (insertBy lt x ys).Perm (x :: ys) := by
  induction ys with
  | nil => simp [insertBy]
  | cons y ys ih =>
    simp only [insertBy]
    split
    · exact (List.Perm.cons y ih).trans (List.Perm.swap x y ys)
    · exact List.Perm.refl _

theorem isortBy_perm (lt : FlatRow → FlatRow → Bool) (xs : List FlatRow) :
    (isortBy lt xs).Perm xs := by
  induction xs with
  | nil => simp [isortBy]
  | cons x xs ih =>
    simp only [isortBy]
    exact (insertBy_perm lt x _).trans (List.Perm.cons x ih)

/-- "non-decreasing": no later element is strictly less than an earlier one -/
def SortedBy (lt : FlatRow → FlatRow → Bool) (l : List FlatRow) : Prop :=
  l.Pairwise (fun a b => lt b a = false)

/-- the two facts a comparison sort needs from `lt` on the rows at hand -/
structure WeakOn (lt : FlatRow → FlatRow → Bool) (P : FlatRow → Prop) : Prop where
  asymm : ∀ a b, P a → P b → lt a b = true → lt b a = false
  negTrans : ∀ a b c, P a → P b → P c → lt a b = false → lt b c = false → lt a c = false

theorem insertBy_sorted {lt : FlatRow → FlatRow → Bool} {P : FlatRow → Prop} (w : WeakOn lt P)
    (x : FlatRow) (hx : P x) (ys : List FlatRow) (hys : ∀ y ∈ ys, P y) (hs : SortedBy lt ys) :
    SortedBy lt (insertBy lt x ys) := by
  induction ys with
  | nil => simp [insertBy, SortedBy]
  | cons y ys ih =>
    obtain ⟨hyz, hs'⟩ := List.pairwise_cons.mp hs
    have hy : P y := hys y (by simp)
    have hys' : ∀ z ∈ ys, P z := fun z hz => hys z (by simp [hz])
    cases h : lt y x
    · simp only [insertBy, h, Bool.false_eq_true, if_false]
      refine List.pairwise_cons.mpr ⟨fun z hz => ?_, hs⟩
      rcases List.mem_cons.mp hz with rfl | hz'
      · exact h
      · exact w.negTrans z y x (hys' z hz') hy hx (hyz z hz') h
    · simp only [insertBy, h, if_true]
      refine List.pairwise_cons.mpr ⟨fun z hz => ?_, ih hys' hs'⟩
      rcases List.mem_cons.mp ((insertBy_perm lt x ys).mem_iff.mp hz) with rfl | hz'
      · exact w.asymm y z hy hx h
      · exact hyz z hz'

theorem isortBy_sorted {lt : FlatRow → FlatRow → Bool} {P : FlatRow → Prop} (w : WeakOn lt P)
    (xs : List FlatRow) (hxs : ∀ x ∈ xs, P x) : SortedBy lt (isortBy lt xs) := by
  induction xs with
  | nil => simp [isortBy, SortedBy]
  | cons x xs ih =>
    simp only [isortBy]
    have hxs' : ∀ z ∈ xs, P z := fun z hz => hxs z (by simp [hz])
    refine insertBy_sorted w x (hxs x (by simp)) _ ?_ (ih hxs')
    intro y hy
    exact hxs' y ((isortBy_perm lt xs).mem_iff.mp hy)

/-- a strict weak order given as a Bool relation: asymmetric, and "not less" is transitive -/
structure StrictWeak {α : Type} (lt : α → α → Bool) : Prop where
  asymm : ∀ {a b}, lt a b = true → lt b a = false
  negTrans : ∀ {a b c}, lt a b = false → lt b c = false → lt a c = false

namespace StrictWeak
variable {α β : Type} {r s : α → α → Bool}

theorem irrefl (h : StrictWeak r) (a : α) : r a a = false := by
  cases e : r a a
  · rfl
  · have := h.asymm e
    rw [e] at this
    cases this

theorem trans (h : StrictWeak r) {a b c : α} (h₁ : r a b = true) (h₂ : r b c = true) :
    r a c = true := by
  -- `¬ a<c` with `¬ c<b` (asymmetry) would give `¬ a<b`
  cases e : r a c
  · rw [h.negTrans e (h.asymm h₂)] at h₁
    cases h₁
  · rfl

theorem comap (h : StrictWeak r) (f : β → α) : StrictWeak (fun a b => r (f a) (f b)) :=
  ⟨h.asymm, h.negTrans⟩

theorem swap (h : StrictWeak r) : StrictWeak (fun a b => r b a) :=
  ⟨h.asymm, fun h₁ h₂ => h.negTrans h₂ h₁⟩

theorem ite (c : Bool) (hr : StrictWeak r) (hs : StrictWeak s) :
    StrictWeak (fun a b => if c then r a b else s a b) := by
  cases c
  · exact hs
  · exact hr

/-- lexicographic composition: by `r`, ties of `r` by `s` -/
theorem lex (hr : StrictWeak r) (hs : StrictWeak s) :
    StrictWeak (fun a b => r a b || (!r b a && s a b)) where
  asymm {a b} h := by
    cases hab : r a b
    · cases hba : r b a
      · simp only [hab, hba, Bool.false_or, Bool.not_false, Bool.true_and] at h ⊢
        exact hs.asymm h
      · simp [hab, hba] at h
    · simp [hr.asymm hab]
  negTrans {a b c} h₁ h₂ := by
    simp only [Bool.or_eq_false_iff, Bool.and_eq_false_iff, Bool.not_eq_false'] at h₁ h₂ ⊢
    refine ⟨hr.negTrans h₁.1 h₂.1, ?_⟩
    cases hca : r c a
    · -- `c`, `a` tie under `r`, hence so do `a`, `b` and `b`, `c`, and `s` decides all three
      have hba : r b a = false := hr.negTrans h₂.1 hca
      have hcb : r c b = false := hr.negTrans hca h₁.1
      have s₁ := h₁.2.resolve_left (by simp [hba])
      have s₂ := h₂.2.resolve_left (by simp [hcb])
      exact Or.inr (hs.negTrans s₁ s₂)
    · exact Or.inl rfl

theorem weakOn {lt : FlatRow → FlatRow → Bool} (h : StrictWeak lt) (P : FlatRow → Prop) :
    WeakOn lt P :=
  ⟨fun _ _ _ _ => h.asymm, fun _ _ _ _ _ _ => h.negTrans⟩

end StrictWeak

theorem strictWeak_lt {α : Type} [LT α] [LE α] [DecidableLT α] [Std.IsLinearOrder α]
    [Std.LawfulOrderLT α] : StrictWeak (fun a b : α => decide (a < b)) where
  asymm h := by
    simp only [decide_eq_true_eq, decide_eq_false_iff_not] at h ⊢
    exact Std.not_gt_of_lt h
  negTrans h₁ h₂ := by
    simp only [decide_eq_false_iff_not, Std.not_lt] at h₁ h₂ ⊢
    exact Std.le_trans h₂ h₁

/-! the order inside one dynamic type, as a lexicographic order of three keys -/

/-- the value inside its type as an integer (0 where the type has none) -/
def ikey : DimVal → Int
  | .bool b => if b then 1 else 0
  | .int _ v => v
  | .time ns => ns
  | _ => 0

def rkey : DimVal → Rat
  | .float _ v => v
  | _ => 0

def skey : DimVal → String
  | .str s => s
  | _ => ""

/-- lexicographic order of the three keys; inside one case of the type switch at most one of them
    is not constant, and `other` values have none -/
def valLt (a b : DimVal) : Bool :=
  decide (ikey a < ikey b) || (!decide (ikey b < ikey a) &&
    (decide (rkey a < rkey b) || (!decide (rkey b < rkey a) && decide (skey a < skey b))))

theorem strictWeak_valLt : StrictWeak valLt :=
  (strictWeak_lt.comap ikey).lex ((strictWeak_lt.comap rkey).lex (strictWeak_lt.comap skey))

end Zeno.SortLemmas
