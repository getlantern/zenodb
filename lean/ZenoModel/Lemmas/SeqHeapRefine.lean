/-
Refinement: the effect model (Model/SeqHeap.lean) and the value model (Model/Seq.lean,
Model/SubMerge.lean) agree on the length and the `until` of every result.  `Rep w sv s` says
that the Go slice `sv` has the length in bytes and the `until` header of the value-level
sequence `s` for states of `w` bytes (the effect model carries no contents); every effect
function maps represented operands to a represented result of the value-level function
applied to the same arguments.
-/
import ZenoModel.Lemmas.SeqHeap
import ZenoModel.Lemmas.SubMergeLoop

namespace Zeno

/-- `sv` has the geometry of `s`: empty iff `none`, otherwise 8 header bytes + one `w`-byte
    state per period, and the header decodes to `s.hi` -/
def Rep (w : Nat) (sv : SV) (s : Sq) : Prop :=
  match s with
  | none => sv.len = 0
  | some q => sv.len = 8 + q.cells.length * w ∧ sv.hi = q.hi

theorem rep_nil (w : Nat) : Rep w SV.nil none := rfl

theorem rep_some_view {w : Nat} {sv : SV} {q : Seq} (h : Rep w sv (some q)) :
    ∃ v, sv.sl = some v ∧ v.len = 8 + q.cells.length * w ∧ sv.hi = q.hi := by
  obtain ⟨hl, hh⟩ := h
  rcases sv.len_cases with h0 | ⟨v, hv, _⟩
  · omega
  · exact ⟨v, hv, SV.len_of_view hv ▸ hl, hh⟩

theorem periods_of_len {w k : Nat} (hw : 0 < w) : (8 + k * w - 8) / w = k := by
  rw [Nat.add_sub_cancel_left, Nat.mul_div_cancel _ hw]

theorem rep_numPeriods {w : Nat} (hw : 0 < w) {sv : SV} {s : Sq} (h : Rep w sv s) :
    sv.numPeriods w = s.numPeriods := by
  cases s with
  | none => simp [Rep] at h; simp [SV.numPeriods, h, Sq.numPeriods]
  | some q =>
    obtain ⟨hl, _⟩ := h
    have : sv.len ≠ 0 := by omega
    simp [SV.numPeriods, Sq.numPeriods, hl, Nat.mul_div_cancel _ hw]

theorem rep_until {w : Nat} {sv : SV} {s : Sq} (h : Rep w sv s) : sv.until = s.until := by
  cases s with
  | none => simp [Rep] at h; simp [SV.until, h, Sq.until]
  | some q =>
    obtain ⟨hl, hh⟩ := h
    have : sv.len ≠ 0 := by omega
    simp [SV.until, this, Sq.until, hh]

theorem rep_asOf {w : Nat} (hw : 0 < w) {sv : SV} {s : Sq} (h : Rep w sv s) (res : Int) :
    sv.asOf w res = s.asOf res := by
  cases s with
  | none => simp [Rep] at h; simp [SV.asOf, h, Sq.asOf]
  | some q =>
    have hn := rep_numPeriods hw h
    obtain ⟨hl, hh⟩ := h
    have : sv.len ≠ 0 := by omega
    simp [SV.asOf, this, Sq.asOf, hh, hn, Sq.numPeriods]

/-- a view under construction has the geometry of `q` -/
def VE.Rep (w : Nat) (r : VE) (q : Seq) : Prop :=
  r.v.len = 8 + q.cells.length * w ∧ r.hi = q.hi

/-- both `return nil`, or both continue with the same geometry -/
def RepV (w : Nat) : Option VE → Sq → Prop
  | none, none => True
  | some r, some q => r.Rep w q
  | _, _ => False

theorem truncUntilEff_refines {w : Nat} (hw : 0 < w) (n : Nat) {v : View} {q : Seq}
    (hl : v.len = 8 + q.cells.length * w) (res h' : Int) :
    RepV w (truncUntilEff n v q.hi w res h') (truncUntil q res h') := by
  -- the byte count and the period count are compared against the same bound
  have hiff : ∀ k : Nat, k * w + 8 ≥ v.len ↔ k ≥ q.cells.length := by
    intro k
    rw [hl, Nat.add_comm 8, ge_iff_le, Nat.add_le_add_iff_right, Nat.mul_le_mul_right_iff hw]
  simp only [truncUntilEff, truncUntil, hiff]
  split
  · split
    · split
      · trivial
      · rename_i hk
        refine ⟨?_, rfl⟩
        simp only [View.mk', hl, List.length_drop, Nat.sub_mul]
        have := Nat.mul_le_mul_right w (Nat.le_of_not_ge hk)
        omega
    · exact ⟨hl, rfl⟩
  · exact ⟨hl, rfl⟩

theorem truncAsOfEff_refines {w : Nat} (hw : 0 < w) {r : VE} {q : Seq} (h : r.Rep w q) (res a' : Int) :
    Rep w (truncAsOfEff r w res a').out (truncAsOf q res a') := by
  obtain ⟨hl, hh⟩ := h
  have hiff : ∀ k : Nat, 8 + k * w ≥ r.v.len ↔ k ≥ q.cells.length := by
    intro k
    rw [hl, ge_iff_le, Nat.add_le_add_iff_left, Nat.mul_le_mul_right_iff hw]
  simp only [truncAsOfEff, truncAsOf, hh, hiff]
  split
  · split
    · rfl
    · split
      · exact ⟨hl, rfl⟩
      · rename_i hk
        refine ⟨?_, rfl⟩
        simp only [SV.len, Sl.len, View.upto, List.length_take, Nat.min_eq_left (Nat.le_of_not_ge hk)]
  · exact ⟨hl, rfl⟩

/-- `Truncate`: the returned slice has the length and `until` of the value-level result -/
theorem truncateEff_refines {w : Nat} (hw : 0 < w) (n : Nat) {sv : SV} {s : Sq} (h : Rep w sv s)
    (res asOf hi : Int) :
    Rep w (truncateEff n sv w res asOf hi).out (s.truncate res asOf hi) := by
  cases s with
  | none =>
    rw [truncateEff_of_empty h]
    rfl
  | some q =>
    obtain ⟨v, hv, hl, hh⟩ := rep_some_view h
    rw [truncate_eq, truncateEff_of_view hv (by omega), hh]
    have hu := truncUntilEff_refines hw n hl res (roundUntilDown hi res q.hi)
    generalize truncUntilEff n v q.hi w res _ = o, truncUntil q res _ = o' at hu ⊢
    match o, o', hu with
    | none, none, _ => rfl
    | some r, some r', hu => exact truncAsOfEff_refines hw hu res _

theorem mergeMainEff_refines {w : Nat} (hw : 0 < w) (n : Nat) (e : Ex) (res : Int) {va vb : View} {a b : Seq}
    (hla : va.len = 8 + a.cells.length * w) (hlb : vb.len = 8 + b.cells.length * w) :
    Rep w (mergeMainEff n va vb a.hi b.hi w res).out (some (mergeMain e res a b)) := by
  constructor
  · simp only [mergeMainEff, mergeMain, SV.len, Sl.len, View.mk', fit_length, hla, hlb, periods_of_len hw]
  · rfl

/-- `Merge`: the returned slice has the length and `until` of the value-level result -/
theorem mergeEff_refines {w : Nat} (hw : 0 < w) (n : Nat) (e : Ex) {sa sb : SV} {a b : Sq}
    (ha : Rep w sa a) (hb : Rep w sb b) (res tb : Int) :
    Rep w (mergeEff n sa sb w res tb).out (Sq.merge e res a b tb) := by
  cases a with
  | none =>
    rw [mergeEff_of_left_empty ha]
    simpa [Sq.merge] using hb
  | some qa =>
    obtain ⟨va, hva, hla, hha⟩ := rep_some_view ha
    have hna : va.len ≠ 0 := by omega
    cases b with
    | none =>
      rw [mergeEff_of_right_empty hva hna hb]
      exact ha
    | some qb =>
      obtain ⟨vb, hvb, hlb, hhb⟩ := rep_some_view hb
      rw [mergeEff_of_views hva hna hvb (by omega), hha, hhb]
      simp only [Sq.merge]
      split
      · split
        · exact hb
        · exact mergeMainEff_refines hw n e res hlb hla
      · split
        · exact ha
        · exact mergeMainEff_refines hw n e res hla hlb

theorem appendEff_len (n : Nat) (d s : View) : (appendEff n d s).v.len = d.len + s.len := by
  unfold appendEff
  split <;> rfl

theorem growEff_refines {ow : Nat} (n : Nat) {ov : View} {o0 : Seq} (hl : ov.len = 8 + o0.cells.length * ow)
    (otherEx : Ex) (otherRes sb hi : Int) :
    (growEff n ov o0.hi ow otherRes sb hi).Rep ow (growV otherEx otherRes sb hi o0) := by
  simp only [growEff, growV]
  generalize (if o0.hi + sb > hi then hi else o0.hi + sb) = shifted
  split
  · split
    · refine ⟨?_, rfl⟩
      simp only [View.mk', hl, List.length_append, List.length_replicate, Nat.add_mul]
      omega
    · exact ⟨hl, rfl⟩
  · exact ⟨hl, rfl⟩

theorem prependV_some (ex : Ex) (res nu : Int) (r : Seq) :
    prependV ex res nu (some r) =
      if r.cells.length = 0 then (⟨nu, [ex.empty]⟩, nu)
      else if (nu - r.hi).tdiv res > 0 then (⟨nu, List.replicate ((nu - r.hi).tdiv res).toNat ex.empty ++ r.cells⟩, nu)
      else (r, r.hi) :=
  rfl

theorem prependEff_refines {w : Nat} (hw : 0 < w) (n : Nat) (ex : Ex) {result : SV} {rs : Sq} (h : Rep w result rs)
    (res newUntil : Int) :
    (prependEff n result w res newUntil).Rep w (prependV ex res newUntil rs).1 ∧
    (prependV ex res newUntil rs).2 = (prependV ex res newUntil rs).1.hi := by
  have one : (⟨View.mk' n (8 + w), newUntil, [8 + w], [setUntilW (View.mk' n (8 + w))]⟩ : VE).Rep w
      ⟨newUntil, [ex.empty]⟩ := ⟨by simp [View.mk'], rfl⟩
  cases rs with
  | none =>
    unfold prependEff prependV
    split
    · exact ⟨one, rfl⟩
    · rename_i rv hrv
      have h0 : rv.len = 0 := SV.len_of_view hrv ▸ h
      rw [if_pos (by omega)]
      exact ⟨one, rfl⟩
  | some r =>
    obtain ⟨rv, hrv, hl, hh⟩ := rep_some_view h
    -- no period left in the slice iff none in the value
    have hiff : rv.len ≤ 8 ↔ r.cells.length = 0 := by
      rw [hl]
      constructor
      · intro h8
        exact (Nat.mul_eq_zero.mp (by omega)).resolve_right (Nat.ne_of_gt hw)
      · intro h0
        rw [h0]
        omega
    simp only [prependEff, prependV_some, hrv, hiff, hh]
    split
    · exact ⟨one, rfl⟩
    · split
      · refine ⟨⟨?_, rfl⟩, rfl⟩
        simp only [appendEff_len, View.mk', View.from, hl, List.length_append, List.length_replicate, Nat.add_mul]
        omega
      · exact ⟨⟨hl, rfl⟩, rfl⟩

theorem appendPeriodsEff_refines {w : Nat} (hw : 0 < w) (n : Nat) (ex : Ex) {r1 : VE} {q : Seq} (h : r1.Rep w q)
    (res otherAsOf : Int) :
    (appendPeriodsEff n r1 w res otherAsOf).Rep w (appendV ex res otherAsOf q.hi q) := by
  obtain ⟨hl, hh⟩ := h
  simp only [appendPeriodsEff, appendV, hl, hh, periods_of_len hw]
  split
  · exact ⟨by simp [View.mk', Nat.add_mul], rfl⟩
  · exact ⟨hl, rfl⟩

/-- `SubMerge`: the returned slice has the length and `until` of the value-level result -/
theorem subMergeEff_refines (n : Nat) (ex otherEx : Ex) (hw : 0 < ex.bytes) (how : 0 < otherEx.bytes) (sm : SM)
    (res otherRes : Int) {sv ov : SV} {s other : Sq} (hs : Rep ex.bytes sv s) (ho : Rep otherEx.bytes ov other)
    (p : Pt) (asOf hi strideSlice : Int) :
    Rep ex.bytes (subMergeEff n ex otherEx sm res otherRes sv ov p asOf hi strideSlice).out
      (Sq.subMerge ex otherEx sm res otherRes s other p asOf hi strideSlice) := by
  rw [subMerge_eq]
  unfold subMergeEff
  simp only
  have ht1 := truncateEff_refines how n ho otherRes (asOf - -ex.shiftOf) hi
  have hnp := rep_numPeriods how ht1
  generalize truncateEff n ov otherEx.bytes otherRes (asOf - -ex.shiftOf) hi = t1 at ht1 hnp ⊢
  generalize Sq.truncate other otherRes (asOf - -ex.shiftOf) hi = o at ht1 hnp ⊢
  cases o with
  | none =>
    split
    · exact hs
    · rw [if_pos (show t1.out.numPeriods otherEx.bytes = 0 from hnp)]
      exact hs
  | some o0 =>
    obtain ⟨ov0, hov0, hl0, hh0⟩ := rep_some_view ht1
    rw [hov0]
    simp only
    rw [show t1.out.numPeriods otherEx.bytes = o0.cells.length from hnp]
    split
    · exact hs
    · rw [rep_asOf how ho otherRes, hh0]
      have hg := growEff_refines (n + t1.allocs.length + (truncateEff (n + t1.allocs.length) sv ex.bytes res asOf hi).allocs.length)
        hl0 otherEx otherRes (-ex.shiftOf) hi
      generalize growEff _ ov0 o0.hi otherEx.bytes otherRes (-ex.shiftOf) hi = g at hg ⊢
      generalize growV otherEx otherRes (-ex.shiftOf) hi o0 = o at hg ⊢
      have ht2 := truncateEff_refines hw (n + t1.allocs.length) hs res asOf hi
      generalize truncateEff (n + t1.allocs.length) sv ex.bytes res asOf hi = t2 at ht2 ⊢
      rw [hg.2]
      have hp := prependEff_refines hw (n + t1.allocs.length + t2.allocs.length + g.allocs.length) ex ht2 res
        (roundUntilUp o.hi res hi)
      generalize prependEff _ t2.out ex.bytes res (roundUntilUp o.hi res hi) = r1 at hp ⊢
      generalize prependV ex res (roundUntilUp o.hi res hi) (Sq.truncate s res asOf hi) = pr at hp ⊢
      have ha := appendPeriodsEff_refines hw (n + t1.allocs.length + t2.allocs.length + g.allocs.length + r1.allocs.length)
        ex hp.1 res (if other.asOf otherRes < asOf then asOf else other.asOf otherRes)
      rw [← hp.2] at ha
      generalize appendPeriodsEff _ r1 ex.bytes res _ = r2 at ha ⊢
      generalize appendV ex res _ pr.2 pr.1 = r2' at ha ⊢
      exact ⟨by simpa [SV.len, Sl.len, length_subMergeLoop] using ha.1, ha.2⟩

end Zeno
