/-
End-to-end: what `core.Group` needs to know about the rows of a table scan (`Store.iterate`) of a
reachable store (`ScanView`).  It holds for the scan of any requested field list `out` at every out
position `j` that is fed by the table's column `ti` alone (`IdxTie`) — in particular for the sub-list of
the table's fields a query scans (`includedFields`, `sourceForTable`), and for the full scan itself.
-/
import ZenoModel.Lemmas.StoreProjSpec
import ZenoModel.Model.Query
namespace Zeno

/-- what the end-to-end proof needs of the rows handed to `groupRows`: one row per key, every row
    has a column `j`, and that column is column `i` of the store's full scan for the row's key -/
structure ScanView (cfg : TableCfg) (st : Store) (i j : Nat) (rows : List Row) : Prop where
  keys : (rows.map (·.key)).Nodup
  width : ∀ r ∈ rows, j < r.cols.length
  col : ∀ r ∈ rows, r.cols.getD j none = scanCol cfg st true r.key i
  /-- a key without a row reads `none` in the full scan too -/
  cover : ∀ κ, (∀ r ∈ rows, r.key ≠ κ) → scanCol cfg st true κ i = none

theorem nodup_keys_of_pairwise {rows : List Row} (h : rows.Pairwise (fun a b => a.key ≠ b.key)) :
    (rows.map (·.key)).Nodup := by
  rw [List.nodup_iff_pairwise_ne, List.pairwise_map]; exact h

theorem pairwise_of_nodup_keys {rows : List Row} (h : (rows.map (·.key)).Nodup) :
    rows.Pairwise (fun a b => a.key ≠ b.key) := by
  rw [List.nodup_iff_pairwise_ne, List.pairwise_map] at h; exact h

theorem scanG_keys_pairwise (cfg : TableCfg) (st : Store) (sinv : StoreInv cfg st) (out : List Field) :
    (st.iterate cfg out true).rows.Pairwise (fun a b => a.key ≠ b.key) := by
  rw [iterate_rows]
  exact joinRows_pairwise (iterFileRow_key _ _ _ _ _) (iterMemRow_key _ _ _ _) sinv.fileOk.uniq sinv.memOk.uniq

/-- the sub-scan is a view of the full scan: the scan of any requested field list `out`, at an out
    position `j` that the table's column `ti` feeds alone (with the same expression) -/
theorem scanView_sub (cfg : TableCfg) (hd : FieldsDistinct cfg.fields) (st : Store) (sinv : StoreInv cfg st)
    (out : List Field) (j ti : Nat) (hti : ti < cfg.fields.length) (hj : j < out.length)
    (htie : IdxTie (outIdxsFor out (cfg.fields.map some)) ti j)
    (hex : (out.getD j default).ex = (cfg.fields.getD ti default).ex) :
    ScanView cfg st ti j (st.iterate cfg out true).rows := by
  have hp := scanG_keys_pairwise cfg st sinv out
  -- both scans read the merge of what file and memstore hold in column `ti`
  have hfull : ∀ key, rowCol (st.iterate cfg out true).rows key j = scanCol cfg st true key ti := by
    intro key
    rw [scan_rowCol cfg st sinv htie hti hj, hex]
    exact (scan_rowCol cfg st sinv (idxTie_id hd.idNodup hti) hti hti true key).symm
  exact ⟨nodup_keys_of_pairwise hp, fun r hr => by rw [iterate_width cfg st out true r hr]; exact hj,
    fun r hr => by rw [← hfull, rowCol_of_mem hp r hr], fun κ hκ => by rw [← hfull, rowCol_of_absent hκ]⟩

theorem scanView_sublist (cfg : TableCfg) (hd : FieldsDistinct cfg.fields) (st : Store) (sinv : StoreInv cfg st)
    (out : List Field) (hsub : out.Sublist cfg.fields) (j ti : Nat) (hti : ti < cfg.fields.length)
    (hj : out[j]? = some (cfg.fields[ti])) : ScanView cfg st ti j (st.iterate cfg out true).rows := by
  apply scanView_sub cfg hd st sinv _ j ti hti (List.getElem?_eq_some_iff.mp hj).1
    (idxTie_of_sublist hd.idNodup hsub hti hj)
  rw [List.getD_eq_getElem?_getD, hj, List.getD_eq_getElem?_getD, List.getElem?_eq_getElem hti]

/-- the full memstore-inclusive scan of a reachable store is a `ScanView` of itself -/
theorem scanView_full (cfg : TableCfg) (hd : FieldsDistinct cfg.fields) (st : Store) (sinv : StoreInv cfg st)
    (i : Nat) (hi : i < cfg.fields.length) :
    ScanView cfg st i i (st.iterate cfg cfg.fields true).rows :=
  scanView_sublist cfg hd st sinv _ (List.Sublist.refl _) i i hi (List.getElem?_eq_getElem hi)

theorem filterMap_zipIdx_sublist {α : Type} (p : Nat → Bool) : ∀ (l : List α) (k : Nat),
    ((l.zipIdx k).filterMap (fun (fi : α × Nat) => if p fi.2 then some fi.1 else none)).Sublist l := by
  intro l
  induction l with
  | nil => intro k; exact List.Sublist.refl _
  | cons a l ih =>
    intro k
    rw [List.zipIdx_cons]
    by_cases hp : p k = true
    · rw [List.filterMap_cons_some (b := a) (by simp [hp])]
      exact List.Sublist.cons_cons a (ih (k + 1))
    · rw [List.filterMap_cons_none (by simp [hp])]
      exact List.Sublist.cons a (ih (k + 1))

/-- `sourceForTable` scans a sub-list of the table's fields -/
theorem includedFields_sublist (cfg : TableCfg) (q : Query) : (includedFields cfg q).Sublist cfg.fields := by
  unfold includedFields
  split
  · exact List.Sublist.refl _
  · exact filterMap_zipIdx_sublist
      (fun i => (q.outFields.map (fun f => (f.ex.subMergers (cfg.fields.map (·.ex))).map Option.isSome)).any
        (fun m => m.getD i false)) cfg.fields 0

theorem includedFields_index (cfg : TableCfg) (q : Query) (j : Nat) (inF : Field)
    (h : (includedFields cfg q)[j]? = some inF) : ∃ ti, ∃ hti : ti < cfg.fields.length, cfg.fields[ti] = inF := by
  have hm : inF ∈ cfg.fields := (includedFields_sublist cfg q).subset (List.mem_of_getElem? h)
  obtain ⟨ti, hti, he⟩ := List.getElem_of_mem hm
  exact ⟨ti, hti, he⟩

/-- the scan `runQuery` performs for a query is a view of the store's full scan at every scanned
    field -/
theorem scanView_included (cfg : TableCfg) (hd : FieldsDistinct cfg.fields) (st : Store) (sinv : StoreInv cfg st)
    (q : Query) (j ti : Nat) (hti : ti < cfg.fields.length)
    (hj : (includedFields cfg q)[j]? = some (cfg.fields[ti])) :
    ScanView cfg st ti j (st.iterate cfg (includedFields cfg q) true).rows :=
  scanView_sublist cfg hd st sinv _ (includedFields_sublist cfg q) j ti hti hj

end Zeno
