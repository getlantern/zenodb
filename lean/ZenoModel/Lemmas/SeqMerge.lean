/-
`Sequence.Merge`: the merged cells by period index (`mergeIdx`, `getD_mergeIdx`), the
bridge from the time arithmetic of the model to period counts (`mergeMain_eq`), the
semantics `sem_merge` and the invariants of the result (`merge_inv`).
-/
import ZenoModel.Lemmas.Seq
import ZenoModel.Lemmas.ExprLaws

namespace Zeno

theorem getD_mergeCells {e : Ex} (hv : e.valid = true) (hp : e.noPtile = true) :
    ∀ (n : Nat) (as bs : List (List Cell)) (j : Nat),
    (mergeCells e n as bs).getD j e.empty =
      if j < n then e.mrg (as.getD j e.empty) (bs.getD j e.empty) else e.empty := by
  intro n
  induction n with
  | zero => intro as bs j; simp [mergeCells]
  | succ n ih =>
    intro as bs j
    cases as <;> cases bs <;> cases j <;>
      simp only [mergeCells, List.getD_cons_succ, List.getD_cons_zero, List.getD_nil, ih, Nat.add_lt_add_iff_right,
        Nat.zero_lt_succ, if_true, mrg_empty_empty hv hp, ite_self]

theorem length_mergeCells (e : Ex) : ∀ (n : Nat) (as bs : List (List Cell)),
    (mergeCells e n as bs).length = min n (max as.length bs.length) := by
  intro n
  induction n with
  | zero => intro as bs; simp [mergeCells]
  | succ n ih =>
    intro as bs
    cases as <;> cases bs <;> simp [mergeCells, ih] <;> omega

/-- `Sequence.Merge`'s main branch with all time arithmetic resolved to period counts:
    `off = (a.hi − b.hi) / res`, the number of periods by which `b` ends before `a`. -/
def mergeIdx (e : Ex) (ca cb : List (List Cell)) (off : Nat) : List (List Cell) :=
  let aP := ca.length
  let bP := cb.length
  let total := max aP (off + bP)
  let leadN := min off aP
  let lead := ca.take leadN
  let sa := ca.drop leadN
  let ov := min bP (aP - off)
  let mid := if off < aP then mergeCells e ov sa cb
    else if aP < off then List.replicate (off - aP) e.empty else []
  let sa' := if off < aP then sa.drop ov else sa
  let sb' := if off < aP then cb.drop ov else cb
  let tail := if off + bP < aP then sa' else if aP < off + bP then sb' else []
  fit e total (lead ++ mid ++ tail)

theorem getD_mergeCells_rest {e : Ex} (hv : e.valid = true) (hp : e.noPtile = true)
    {sa sb : List (List Cell)} (ha : CellsWF e sa) (hb : CellsWF e sb) (j : Nat) :
    (mergeCells e (min sb.length sa.length) sa sb ++
        if sb.length < sa.length then sa.drop (min sb.length sa.length)
        else if sa.length < sb.length then sb.drop (min sb.length sa.length) else []).getD j e.empty =
      e.mrg (sa.getD j e.empty) (sb.getD j e.empty) := by
  rw [getD_append', length_mergeCells, getD_mergeCells hv hp,
    show min (min sb.length sa.length) (max sa.length sb.length) = min sb.length sa.length by omega]
  by_cases hj : j < min sb.length sa.length
  · rw [if_pos hj, if_pos hj]
  · rw [if_neg hj]
    split
    · rw [getD_drop', show min sb.length sa.length + (j - min sb.length sa.length) = j by omega,
        getD_ge e sb j (by omega), mrg_empty_right hv hp (getD_wf ha j)]
    · split
      · rw [getD_drop', show min sb.length sa.length + (j - min sb.length sa.length) = j by omega,
          getD_ge e sa j (by omega), mrg_empty_left hv hp (getD_wf hb j)]
      · rw [getD_ge e sa j (by omega), getD_ge e sb j (by omega), mrg_empty_empty hv hp]
        rfl

theorem getD_mergeIdx {e : Ex} (hv : e.valid = true) (hp : e.noPtile = true)
    {ca cb : List (List Cell)} (ha : CellsWF e ca) (hb : CellsWF e cb) (off i : Nat) :
    (mergeIdx e ca cb off).getD i e.empty =
      e.mrg (ca.getD i e.empty) (if off ≤ i then cb.getD (i - off) e.empty else e.empty) := by
  have er : ∀ j, e.mrg (ca.getD j e.empty) e.empty = ca.getD j e.empty :=
    fun j => mrg_empty_right hv hp (getD_wf ha j)
  have ee := mrg_empty_empty hv hp
  unfold mergeIdx
  simp only
  rw [getD_fit]
  by_cases ht : max ca.length (off + cb.length) ≤ i
  · -- past the end of both
    rw [if_neg (by omega), getD_ge e ca i (by omega)]
    split
    · rw [getD_ge e cb _ (by omega), ee]
    · rw [ee]
  rw [if_pos (by omega), List.append_assoc, getD_append', getD_take', List.length_take]
  by_cases hoa : off < ca.length
  · -- `b` starts inside `a`: the periods before it, then the aligned merge of the rest
    have c1 : off + cb.length < ca.length ↔ cb.length < (ca.drop off).length := by
      rw [List.length_drop]
      omega
    have c2 : ca.length < off + cb.length ↔ (ca.drop off).length < cb.length := by
      rw [List.length_drop]
      omega
    have hov : min cb.length (ca.length - off) = min cb.length (ca.drop off).length := by
      rw [List.length_drop]
    simp only [hoa, if_true, Nat.min_eq_left (Nat.le_of_lt hoa), c1, c2, hov]
    rw [getD_mergeCells_rest hv hp (cellsWF_drop ha off) hb, getD_drop']
    by_cases hi : i < off
    · rw [if_pos hi, if_pos hi, if_neg (by omega), er]
    · rw [if_neg hi, if_pos (by omega), show off + (i - off) = i by omega]
  · -- `b` starts at or after the end of `a`: all of `a`, the gap, all of `b`
    have hgap : (if ca.length < off then List.replicate (off - ca.length) e.empty else []) =
        List.replicate (off - ca.length) e.empty := by
      split
      · rfl
      · rw [show off - ca.length = 0 by omega]
        rfl
    have htail : (if ca.length < off + cb.length then cb else []) = cb := by
      split
      · rfl
      · exact (List.length_eq_zero_iff.mp (by omega)).symm
    simp only [hoa, if_false, Nat.min_eq_right (Nat.le_of_not_lt hoa), Nat.min_self, hgap,
      show ¬ off + cb.length < ca.length by omega, htail]
    by_cases hi : i < ca.length
    · rw [if_pos hi, if_pos hi, if_neg (by omega), er]
    · rw [if_neg hi, getD_ge e ca i (by omega), getD_append_replicate]
      by_cases hoi : off ≤ i
      · rw [if_neg (by omega), if_pos hoi, show i - ca.length - (off - ca.length) = i - off by omega,
          mrg_empty_left hv hp (getD_wf hb _)]
      · rw [if_pos (by omega), if_neg hoi, ee]

theorem cellsWF_mergeIdx {e : Ex} (hv : e.valid = true) (hp : e.noPtile = true)
    {ca cb : List (List Cell)} (ha : CellsWF e ca) (hb : CellsWF e cb) (off : Nat) :
    CellsWF e (mergeIdx e ca cb off) := by
  refine cellsWF_of_getD fun i => ?_
  rw [getD_mergeIdx hv hp ha hb]
  refine mrg_wf hv hp (getD_wf ha i) ?_
  split
  · exact getD_wf hb _
  · exact wf_empty e

theorem length_mergeIdx (e : Ex) (ca cb : List (List Cell)) (off : Nat) :
    (mergeIdx e ca cb off).length = max ca.length (off + cb.length) :=
  fit_length e _ _

theorem tdiv_steps_add {res : Int} (h : 0 < res) (s k m : Int) : (s - (s - k * res - m * res)).tdiv res = k + m := by
  rw [show s - (s - k * res - m * res) = (k + m) * res by rw [Int.add_mul]; omega, mul_tdiv_self h]

theorem tdiv_steps_sub {res : Int} (h : 0 < res) (s a k : Int) : (s - a * res - (s - k * res)).tdiv res = k - a := by
  rw [show s - a * res - (s - k * res) = (k - a) * res by rw [Int.sub_mul]; omega, mul_tdiv_self h]

theorem take_if (l : List (List Cell)) (k : Nat) :
    (if (k : Int) > 0 then l.take (k : Int).toNat else []) = l.take k := by
  cases k <;> simp

theorem drop_if (l : List (List Cell)) (k : Nat) :
    (if (k : Int) > 0 then l.drop (k : Int).toNat else l) = l.drop k := by
  cases k <;> simp

theorem drop_ite (c : Prop) [Decidable c] (n : Nat) (l : List (List Cell)) :
    l.drop (if c then n else 0) = if c then l.drop n else l := by
  split <;> rfl

/-- Each comparison of times is a comparison of period counts (`c1`–`c4`), and each duration
    divided by the resolution is a period count (`hT`: total, `hL`: periods of `a` before `b`
    starts, `hO`: overlap, `hR`: gap).  The counts are equal as expressions, so the body needs
    no case distinction (splitting it is slow to check). -/
theorem mergeMain_eq (e : Ex) {res : Int} (h : 0 < res) (sA : Int) (ca cb : List (List Cell)) (off : Nat) :
    mergeMain e res ⟨sA, ca⟩ ⟨sA - off * res, cb⟩ = ⟨sA, mergeIdx e ca cb off⟩ := by
  have hT : ((sA - if off + cb.length < ca.length then sA - ↑ca.length * res
      else sA - ↑off * res - ↑cb.length * res).tdiv res).toNat = max ca.length (off + cb.length) := by
    split <;> simp only [Int.sub_sub_self, tdiv_steps_add h, mul_tdiv_self h] <;> omega
  have hL : (sA - if ca.length < off then sA - ↑ca.length * res else sA - ↑off * res).tdiv res
      = ((min off ca.length : Nat) : Int) := by
    split <;> rw [Int.sub_sub_self, mul_tdiv_self h] <;> omega
  have hO : ((if off + cb.length < ca.length then (off : Int) + cb.length else ca.length) -
      ((min off ca.length : Nat) : Int)).toNat = min cb.length (ca.length - off) := by
    split <;> omega
  have hR : ((off : Int) - ca.length).toNat = off - ca.length := by omega
  have hB : sA - ↑off * res - ↑cb.length * res = sA - ((off + cb.length : Nat) : Int) * res := by
    rw [natCast_add_mul, Int.sub_sub]
  have c1 : sA - ↑ca.length * res < sA - ↑off * res - ↑cb.length * res ↔ off + cb.length < ca.length := by
    rw [hB]
    exact sub_natCast_mul_lt h sA _ _
  have c2 : sA - ↑off * res < sA - ↑ca.length * res ↔ ca.length < off := sub_natCast_mul_lt h sA _ _
  have c3 : sA - ↑off * res > sA - ↑ca.length * res ↔ off < ca.length := sub_natCast_mul_lt h sA _ _
  have c4 : sA - ↑off * res - ↑cb.length * res < sA - ↑ca.length * res ↔ ca.length < off + cb.length := by
    rw [hB]
    exact sub_natCast_mul_lt h sA _ _
  unfold mergeMain mergeIdx
  simp only [c1, c2, c3, c4, Int.sub_sub_self, tdiv_steps_add h, tdiv_steps_sub h, mul_tdiv_self h]
  simp only [hT, hL, hO, hR, take_if, drop_if, drop_ite]

theorem at_zip {e : Ex} (hv : e.valid = true) (hp : e.noPtile = true) (res hi t : Int)
    {cs a b : List (List Cell)}
    (hz : ∀ i, cs.getD i e.empty = e.mrg (a.getD i e.empty) (b.getD i e.empty)) :
    Sq.at (some ⟨hi, cs⟩) e res t = e.mrg (Sq.at (some ⟨hi, a⟩) e res t) (Sq.at (some ⟨hi, b⟩) e res t) := by
  rw [at_some, at_some, at_some]
  split
  · exact hz _
  · exact (mrg_empty_empty hv hp).symm

theorem sem_merge_ord {e : Ex} (hv : e.valid = true) (hp : e.noPtile = true) {res : Int} (h : 0 < res)
    (a b : Seq) (ha : CellsWF e a.cells) (hb : CellsWF e b.cells)
    (hle : b.hi ≤ a.hi) (hal : (a.hi - b.hi) % res = 0) (tb t : Int)
    (hlive : roundUntilUp tb res a.hi ≤ t) :
    Sq.at (if b.hi < roundUntilUp tb res a.hi then some a else some (mergeMain e res a b)) e res t =
      e.mrg (Sq.at (some a) e res t) (Sq.at (some b) e res t) := by
  split
  · rw [at_above e res b t (by omega), mrg_empty_right hv hp (at_wf ha res t)]
  · obtain ⟨off, hoff⟩ := grid_index h hal hle
    obtain ⟨sA, ca⟩ := a
    obtain ⟨sB, cb⟩ := b
    obtain rfl : sB = sA - off * res := by simp only at hoff; omega
    -- `b` read as a sequence ending with `a`, `off` empty periods in front
    rw [mergeMain_eq e h, ← at_prepend_empties e h (sA - off * res) cb off t, Int.sub_add_cancel]
    refine at_zip hv hp res _ t fun i => ?_
    rw [getD_mergeIdx hv hp ha hb, getD_append_replicate]
    by_cases hoi : off ≤ i
    · rw [if_pos hoi, if_neg (by omega)]
    · rw [if_neg hoi, if_pos (by omega)]

/-- Semantics of `Sequence.Merge` for two non-empty aligned sequences: every period that is
    still live (ends at or after the rounded truncateBefore) holds the merge of the two
    operands' states for that period. -/
theorem sem_merge {e : Ex} (hv : e.valid = true) (hp : e.noPtile = true) {res : Int} (h : 0 < res)
    (a b : Seq) (ha : CellsWF e a.cells) (hb : CellsWF e b.cells)
    (hal : (a.hi - b.hi) % res = 0) (tb t : Int)
    (hlive : roundUntilUp tb res (max a.hi b.hi) ≤ t) :
    (Sq.merge e res (some a) (some b) tb).at e res t =
      e.mrg (Sq.at (some a) e res t) (Sq.at (some b) e res t) := by
  simp only [Sq.merge]
  by_cases hsw : b.hi > a.hi
  · rw [Int.max_eq_right (by omega)] at hlive
    rw [if_pos hsw, sem_merge_ord hv hp h b a hb ha (by omega) (grid_symm hal) tb t hlive]
    exact mrg_comm hv hp (at_wf hb res t) (at_wf ha res t)
  · rw [Int.max_eq_left (by omega)] at hlive
    rw [if_neg hsw]
    exact sem_merge_ord hv hp h a b ha hb (by omega) hal tb t hlive

/-- `Merge` of two well-formed sequences on the absolute grid is again one -/
theorem merge_inv {e : Ex} (hv : e.valid = true) (hp : e.noPtile = true) {res : Int} (h : 0 < res)
    (a b : Sq) (ha : SqOk res a) (hb : SqOk res b) (wa : SqWF e a) (wb : SqWF e b) (tb : Int) :
    SqOk res (Sq.merge e res a b tb) ∧ SqWF e (Sq.merge e res a b tb) := by
  cases a with
  | none => cases b <;> exact ⟨hb, wb⟩
  | some a =>
    cases b with
    | none => exact ⟨ha, wa⟩
    | some b =>
      have key : ∀ (a b : Seq), SeqOk res a → SeqOk res b → CellsWF e a.cells → CellsWF e b.cells → b.hi ≤ a.hi →
          SqOk res (if b.hi < roundUntilUp tb res a.hi then some a else some (mergeMain e res a b)) ∧
          SqWF e (if b.hi < roundUntilUp tb res a.hi then some a else some (mergeMain e res a b)) := by
        intro a b ha hb wa wb hle
        split
        · exact ⟨ha, wa⟩
        · obtain ⟨off, hoff⟩ := grid_index h (emod_sub_of ha.aligned hb.aligned) hle
          have h1 := ha.bound
          have h2 := hb.bound
          obtain ⟨sA, ca⟩ := a
          obtain ⟨sB, cb⟩ := b
          obtain rfl : sB = sA - off * res := by simp only at hoff; omega
          rw [mergeMain_eq e h]
          refine ⟨⟨ha.aligned, ?_, ha.pos⟩, cellsWF_mergeIdx hv hp wa wb off⟩
          show ((mergeIdx e ca cb off).length : Int) * res ≤ sA
          rw [length_mergeIdx]
          by_cases hmx : ca.length ≤ off + cb.length
          · rw [Nat.max_eq_right hmx, natCast_add_mul]
            simp only at h2
            omega
          · rw [Nat.max_eq_left (by omega)]
            exact h1
      simp only [Sq.merge]
      by_cases hsw : b.hi > a.hi
      · rw [if_pos hsw]
        exact key b a hb ha wb wa (by omega)
      · rw [if_neg hsw]
        exact key a b ha hb wa wb (by omega)

/-- `sem_merge` for operands that may be empty, at a grid point after `truncateBefore`
    (what a memstore-inclusive scan hands out on live periods: file state merged with memstore state) -/
theorem sem_merge_live {e : Ex} (hv : e.valid = true) (hp : e.noPtile = true) {res : Int} (h : 0 < res)
    (file mem : Sq) (hf : SqOk res file) (hm : SqOk res mem) (wf : SqWF e file) (wm : SqWF e mem)
    (tb T : Int) (hT : T % res = 0) (hgt : T > tb) :
    (Sq.merge e res file mem tb).at e res T = e.mrg (file.at e res T) (mem.at e res T) := by
  cases file with
  | none =>
    cases mem with
    | none => simp [Sq.merge, at_none, mrg_empty_empty hv hp]
    | some m =>
      simp only [Sq.merge, at_none]
      exact (mrg_empty_left hv hp (at_wf wm res T)).symm
  | some f =>
    cases mem with
    | none =>
      simp only [Sq.merge, at_none]
      exact (mrg_empty_right hv hp (at_wf wf res T)).symm
    | some m =>
      apply sem_merge hv hp h f m wf wm (emod_sub_of hf.aligned hm.aligned) tb T
      by_cases hmx : f.hi ≤ m.hi
      · rw [Int.max_eq_right hmx]
        exact roundUntilUp_le_live h hm.aligned hT hgt
      · rw [Int.max_eq_left (by omega)]
        exact roundUntilUp_le_live h hf.aligned hT hgt

end Zeno
