/-
Helper lemmas for C16 (lexer agreement): the pre-scan's sub-scanners compute what the
tokenizer's do, hence one round of the pre-scan is one `Tokenizer.Scan`; every token consumes
input, hence fuel > length is never exhausted.
-/
import ZenoModel.Model.SqlLex

namespace Zeno.Sql.Lex

theorem preString_eq (d : Char) (s : Str) : preString d s = tokString d s := by
  unfold preString
  fun_induction tokString d s <;> unfold preStringWith <;> simp_all

theorem preLine_eq (s : Str) : preLine s = tokLine s := by
  fun_induction tokLine s <;> simp_all [preLine]

theorem preBlock_eq : ∀ s, preBlock s = tokBlock s
  | [] => rfl
  | [c] => by simp [preBlock, tokBlock]
  | c :: d :: r2 => by
      unfold preBlock tokBlock
      simp only
      by_cases hc : c == '*'
      · by_cases hd : d == '/'
        · simp [hc, hd]
        · simp only [hc, hd, Bool.and_false, Bool.false_eq_true, if_false, if_true]
          exact preBlock_eq (d :: r2)
      · simp only [hc, Bool.false_and, Bool.false_eq_true, if_false]
        exact preBlock_eq (d :: r2)

theorem preLiteral_eq (s : Str) : preLiteral s = tokLiteral s := rfl

theorem preNumTail_true (s : Str) : preNumTail true s = tokExponent s := by
  unfold preNumTail tokExponent
  cases s <;> simp

theorem preNumTail_false (s : Str) : preNumTail false s = tokFraction s := by
  unfold preNumTail tokFraction tokExponent
  match s with
  | [] => simp
  | c :: r =>
      by_cases h : c == '.'
      · simp [h]
      · simp [h]

theorem ite_false_swap {α : Type} (b : Bool) (x y : α) :
    (if b = false then x else y) = (if b = true then y else x) := by cases b <;> rfl

theorem preNumber_eq (b : Bool) (s : Str) : preNumber b s = tokNumber b s := by
  unfold preNumber tokNumber
  simp only [preNumTail_true, preNumTail_false, Bool.not_eq_true', ite_false_swap]

/-- one round of the pre-scan is one call of `Tokenizer.Scan` -/
theorem preScan_eq (first : Bool) (s : Str) : preScan first s = tokScan first s := by
  unfold preScan preScanWith tokScan
  simp only [preNumber_eq, preLine_eq, preBlock_eq, preLiteral_eq, preString_eq]

theorem preAll_eq : ∀ (n : Nat) (first : Bool) (s : Str), preAll n first s = tokAll n first s
  | 0, _, _ => rfl
  | n + 1, first, s => by
      unfold preAll preAllWith tokAll
      have h := preScan_eq first s
      unfold preScan at h
      rw [h]
      split <;> first | rfl | exact preAll_eq n false _

theorem dw_le (p : Char → Bool) (l : Str) : (l.dropWhile p).length ≤ l.length :=
  (List.dropWhile_suffix p).length_le

theorem mantissa_le (b : Nat) (s : Str) : (mantissa b s).length ≤ s.length := dw_le _ s

theorem digit_val (c : Char) (h : isDigit c = true) : digitVal c < 10 := by
  unfold isDigit at h
  unfold digitVal
  simp only [h, if_true]
  simp only [Bool.and_eq_true, decide_eq_true_eq] at h
  have h2 : c.toNat ≤ '9'.toNat := h.2
  have : '9'.toNat = 57 := rfl
  have : '0'.toNat = 48 := rfl
  omega

theorem tokExponent_le (s : Str) : (tokExponent s).length ≤ s.length := by
  unfold tokExponent
  split
  · rename_i c r
    split
    · split
      · rename_i d r2
        have h1 := mantissa_le 10 r2
        have h2 := mantissa_le 10 (d :: r2)
        split <;> simp only [List.length_cons] at * <;> omega
      · have h1 := mantissa_le 10 ([] : Str)
        simp only [List.length_cons] at *; omega
    · exact Nat.le_refl _
  · exact Nat.le_refl _

theorem tokFraction_le (s : Str) : (tokFraction s).length ≤ s.length := by
  unfold tokFraction
  split
  · rename_i c r
    split
    · have h1 := tokExponent_le (mantissa 10 r)
      have h2 := mantissa_le 10 r
      simp only [List.length_cons]; omega
    · exact tokExponent_le _
  · exact tokExponent_le _

theorem tokString_le (delim : Char) (s r' : Str) (h : tokString delim s = some r') : r'.length ≤ s.length := by
  fun_induction tokString delim s <;> simp_all <;> omega

theorem tokLine_le (s : Str) : (tokLine s).length ≤ s.length := by
  fun_induction tokLine s <;> simp_all <;> omega

theorem tokBlock_le (s r' : Str) (h : tokBlock s = some r') : r'.length ≤ s.length := by
  fun_induction tokBlock s <;> simp_all <;> omega

theorem untilBacktick_le (s r' : Str) (h : untilBacktick s = some r') : r'.length ≤ s.length := by
  fun_induction untilBacktick s <;> simp_all <;> omega

theorem tokLiteral_le (s r' : Str) (h : tokLiteral s = some r') : r'.length ≤ s.length := by
  cases s with
  | nil => cases h
  | cons _ r => exact Nat.le_succ_of_le (untilBacktick_le r r' h)

theorem skipStart_le (f : Bool) (s : Str) : (skipStart f s).length ≤ s.length := by
  unfold skipStart
  split
  · rename_i c r
    split
    · have := dw_le isBlank r
      simp only [List.length_cons]; omega
    · exact dw_le _ _
  · exact dw_le _ _

theorem tokNumber_true_le (s r' : Str) (h : tokNumber true s = some r') : r'.length ≤ s.length := by
  unfold tokNumber at h
  simp only [if_true] at h
  cases h
  have h1 := tokExponent_le (mantissa 10 s)
  have h2 := mantissa_le 10 s
  omega

theorem pick3 (hex tf sd : Bool) (a b c r' : Str)
    (h : (if hex = true then some a else if tf = true then some b else if sd = true then none else some c) = some r') :
    r' = a ∨ r' = b ∨ r' = c := by
  cases hex <;> cases tf <;> cases sd <;> simp at h <;> simp [h]

theorem octal_le (b : Bool) (r : Str) :
    (if b = true then mantissa 10 (mantissa 8 r) else mantissa 8 r).length ≤ r.length := by
  have h8 := mantissa_le 8 r
  have h10 := mantissa_le 10 (mantissa 8 r)
  cases b <;> simp <;> omega

theorem tokNumber_digit_le (c : Char) (r r' : Str) (hd : isDigit c = true)
    (h : tokNumber false (c :: r) = some r') : r'.length ≤ r.length := by
  unfold tokNumber at h
  simp only [Bool.false_eq_true, if_false] at h
  by_cases hc : (c == '0') = true
  · rw [if_pos hc] at h
    rcases pick3 _ _ _ _ _ _ _ h with rfl | rfl | rfl
    · have := mantissa_le 16 (r.drop 1)
      have : (r.drop 1).length ≤ r.length := by simp
      omega
    · exact Nat.le_trans (tokFraction_le _) (octal_le _ r)
    · exact octal_le _ r
  · rw [if_neg hc] at h
    cases h
    have hm : mantissa 10 (c :: r) = mantissa 10 r := by
      unfold mantissa
      simp [digit_val c hd]
    rw [hm]
    have := tokFraction_le (mantissa 10 r)
    have := mantissa_le 10 r
    omega

/-- if a token was consumed, at most `n` bytes are left -/
def Step.Le (st : Step) (n : Nat) : Prop := ∀ r, st = .next r → r.length ≤ n

namespace Step

theorem le_next {r : Str} {n : Nat} (h : r.length ≤ n) : (next r).Le n :=
  fun _ e => next.inj e ▸ h

theorem le_lexError {n : Nat} : lexError.Le n := nofun

theorem le_ofOpt {o : Option Str} {x : Step} {n : Nat} (ho : ∀ r, o = some r → r.length ≤ n)
    (hx : x.Le n) : (ofOpt o x).Le n := by
  cases o
  · exact hx
  · exact le_next (ho _ rfl)

theorem le_ite' {p : Prop} [Decidable p] {a b : Step} {n : Nat} (ha : p → a.Le n) (hb : b.Le n) :
    (if p then a else b).Le n := by
  split
  · exact ha ‹_›
  · exact hb

theorem le_ite {p : Prop} [Decidable p] {a b : Step} {n : Nat} (ha : a.Le n) (hb : b.Le n) :
    (if p then a else b).Le n :=
  le_ite' (fun _ => ha) hb

end Step

open Step in
/-- The dispatch of `Scan` on the first byte `c`, branch by branch in the order of the model: each
    returns what follows `c`, a suffix of it, or what a sub-scanner leaves of it. -/
theorem tokScan_lt (f : Bool) (s r' : Str) (h : tokScan f s = .next r') : r'.length < s.length := by
  have hs := skipStart_le f s
  unfold tokScan at h
  split at h
  · cases h
  · rename_i c r heq
    rw [heq] at hs
    refine Nat.lt_of_le_of_lt ((?_ : Step.Le _ r.length) r' h) hs
    refine le_ite (le_next (dw_le _ _))
      (le_ite' (fun hd => le_ofOpt (fun _ => tokNumber_digit_le c r _ hd) le_lexError) ?_)
    cases r with
    | nil =>
      have h0 : (next []).Le 0 := le_next (Nat.le_refl _)
      exact le_ite le_lexError (le_ite h0 (le_ite h0 (le_ite h0 (le_ite h0 (le_ite h0 (le_ite h0
        (le_ite le_lexError (le_ite le_lexError (le_ite nofun le_lexError)))))))))
    | cons d t =>
      have ht : t.length ≤ (d :: t).length := Nat.le_succ _
      have hr : (next (d :: t)).Le (d :: t).length := le_next (Nat.le_refl _)
      have hl := le_next (Nat.le_trans (tokLine_le t) ht)
      refine le_ite ?_ (le_ite hr (le_ite (le_ite (le_ofOpt (tokNumber_true_le _) le_lexError) hr)
        (le_ite (le_ite hl (le_ite (le_ofOpt (fun r h => Nat.le_trans (tokBlock_le t r h) ht) le_lexError) hr))
        (le_ite (le_ite hl hr) (le_ite (le_ite (le_next ht) (le_ite ?_ hr)) (le_ite (le_ite (le_next ht) hr)
        (le_ite (le_ite (le_next ht) le_lexError) (le_ite (le_ofOpt (tokString_le c _) le_lexError)
        (le_ite (le_ofOpt (tokLiteral_le _) nofun) le_lexError)))))))))
      · -- bind variables: `:` or `::`, then a letter
        have hb : ∀ u : Str, u.length ≤ (d :: t).length → (match u with
            | l :: _ => if isLetter l then next (bindRest u) else lexError
            | [] => lexError).Le (d :: t).length := by
          intro u hu
          split
          · exact le_ite (le_next (Nat.le_trans (dw_le _ _) hu)) le_lexError
          · exact le_lexError
        by_cases hd : (d == ':') = true
        · simp only [hd, if_true]
          exact hb t ht
        · simp only [hd]
          exact hb _ (Nat.le_refl _)
      · -- `<=` and `<=>`
        cases t with
        | nil => exact le_next ht
        | cons e u => exact le_ite (le_next (Nat.le_trans (Nat.le_succ _) ht)) (le_next ht)

theorem tokAll_fuel : ∀ (n : Nat) (f : Bool) (s : Str), s.length < n → ∃ b, tokAll n f s = some b := by
  intro n
  induction n with
  | zero => intro f s h; omega
  | succ n ih =>
    intro f s h
    unfold tokAll
    cases hs : tokScan f s with
    | eof => exact ⟨true, rfl⟩
    | lexError => exact ⟨true, rfl⟩
    | loops => exact ⟨false, rfl⟩
    | next r =>
      have := tokScan_lt f s r hs
      exact ih false r (by omega)

end Zeno.Sql.Lex
