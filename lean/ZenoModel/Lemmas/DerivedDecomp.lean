/-
Derived selected expressions: under the store-side span hypothesis `ScanSpans` (every accepted row's
period is physically present in the scanned columns of its key's scan row) the grouped columns
physically hold every out period whose spec bucket is non-empty, so `Flatten` and `specOut` build
the same row at every non-empty bucket, and the rows of `runQuery` and `specQuery` before HAVING have
the same members there.
-/
import ZenoModel.Lemmas.DerivedE2E
import ZenoModel.Lemmas.DerivedSpan
import ZenoModel.Lemmas.DerivedClosure
namespace Zeno

/-- a hypothesis about the store (not proved; decidable on examples): for every accepted,
    WHERE-passing row inside the window the scan holds a row for its key, and each scanned column of
    that row physically contains the row's period -/
def ScanSpans (x : Ext) (cfg : TableCfg) (ops : List StoreOp) (q : Query) (metas : List KeyMeta) (pl : Plan) : Prop :=
  ∀ a ∈ specRows q metas (acceptedRows cfg true (pointsOf ops)).1,
    gAsOfOf cfg (runStore x cfg ops).now pl < a.period ∧ a.period ≤ gUntilOf cfg (runStore x cfg ops).now pl →
    ∃ r ∈ e2eScan x cfg ops q metas, r.key = a.key ∧
      ∀ j ∈ List.range (includedFields cfg q).length, spanHas (r.cols.getD j none) cfg.res a.period = true

/-- every non-constant selected field has state (no bare field outside an aggregate) -/
def StatefulFields (q : Query) : Prop := ∀ f ∈ q.outFields, f.ex.isConstant = true ∨ f.ex.width ≠ 0

section
variable (x : Ext) {cfg : TableCfg} {ops : List StoreOp} {q : Query} {metas : List KeyMeta} {pl : Plan}
  (C : DerivedCtx x cfg ops q metas pl) (SS : ScanSpans x cfg ops q metas pl)
include C SS

theorem bucket_member_row (k : Key) (T : Int) (hB : e2eBucket x cfg ops q metas pl k T ≠ []) :
    ∃ r ∈ groupMembers q (e2eScan x cfg ops q metas) k,
      ∃ t ∈ bucketTimes cfg.res (gResOf cfg pl / cfg.res).toNat (gAsOfOf cfg (runStore x cfg ops).now pl)
          (gUntilOf cfg (runStore x cfg ops).now pl) T,
        ∀ j, j < (includedFields cfg q).length → sqCovers (r.cols.getD j none) cfg.res t := by
  have w := C.base.window
  obtain ⟨a, ha, hwin, hk, hout⟩ :=
    (mem_specBuckets q _ _ _ _ k T).mp ((mem_specBuckets_iff_nonempty q _ (specAdj metas) _ _ _ k T).mpr hB)
  obtain ⟨r, hr, hrk, hsp⟩ := SS a ha hwin
  have hper := acceptedRows_period cfg C.base.wf.res_pos true _ a ((mem_specRows q metas _ a).mp ha).1
  obtain ⟨_, o2, o3⟩ := outPeriod_spec (hi := gUntilOf cfg (runStore x cfg ops).now pl) (t := a.period) C.base.resPos
  rw [show outPeriod _ (gResOf cfg pl) a.period = T from hout] at o2 o3
  refine ⟨r, List.mem_filter.mpr ⟨hr, by rw [hrk]; simpa using hk⟩, a.period,
    (mem_bucketTimes_iff w T a.period (specBucketPts_window q _ _ C.base.resPos hB).2).mpr ⟨hper, hwin, o2, o3⟩, ?_⟩
  intro j hj
  have hjs : j < ((includedFields cfg q).map (·.ex)).length := by simpa using hj
  obtain ⟨hok, _⟩ := (scan_rowColsOk x C r hr).2 j _ (List.getElem?_eq_getElem hjs)
  refine (spanHas_iff C.base.wf.res_pos _ a.period fun qq hq => ?_).mp (hsp j (List.mem_range.mpr hj))
  rw [hq] at hok
  exact emod_sub_of hok.aligned hper

theorem derived_group_row_of_bucket (k : Key) (T : Int) (hB : e2eBucket x cfg ops q metas pl k T ≠ []) :
    ∃ g ∈ e2eGroup x cfg ops q metas pl, g.key = k := by
  obtain ⟨r, hr, _⟩ := bucket_member_row x C SS k T hB
  obtain ⟨hr1, hr2⟩ := List.mem_filter.mp hr
  have := ((groupRows_keys cfg (runStore x cfg ops).now q pl (includedFields cfg q) metas
    (e2eScan x cfg ops q metas)).2 k).mpr ⟨r, hr1, by simpa using hr2⟩
  obtain ⟨g, hg, hgk⟩ := List.mem_map.mp this
  exact ⟨g, hg, hgk⟩

variable (hall : ∀ f ∈ q.outFields, DerivedField x cfg ops q f)
include hall

theorem derived_span_of_bucket (g : Row) (hg : g ∈ e2eGroup x cfg ops q metas pl) (T : Int)
    (hB : e2eBucket x cfg ops q metas pl g.key T ≠ []) (i : Nat) (hi : i < g.cols.length)
    (hi' : i < q.outFields.length) (hw : (q.outFields[i]).ex.width ≠ 0) :
    spanHas (g.cols[i]) (gResOf cfg pl) T = true := by
  obtain ⟨hW, hT⟩ := specBucketPts_window q _ _ C.base.resPos hB
  obtain ⟨r, hr, t, ht, hcov⟩ := bucket_member_row x C SS g.key T hB
  have df := hall _ (List.getElem_mem hi')
  have H := derivedCell_of_store x C i _ (List.getElem?_eq_getElem hi') df
  obtain ⟨j, hj, hsm⟩ := colSM_of_hasClosure (hasClosure_of_resolved _ _ df.resolved hw)
  have hgrid := (derived_readOut x C hall).onGrid g hg _ (List.getElem_mem hi)
  rw [groupRows_col_is_cell cfg _ q pl _ metas _ g hg i hi] at hgrid ⊢
  refine (spanHas_iff C.base.resPos _ T fun c hc => ?_).mpr
    (groupCell_covers H metas g.key T hT hW r hr j hj hsm t ht (hcov j (by simpa using hj)))
  rw [hc] at hgrid
  exact grid_trans (grid_symm hgrid.1) hT

variable (hst : StatefulFields q)
include hst

theorem derived_flatAt_bucket (g : Row) (hg : g ∈ e2eGroup x cfg ops q metas pl) (T : Int)
    (hB : e2eBucket x cfg ops q metas pl g.key T ≠ []) :
    flatAt x q.outFields (gResOf cfg pl) g T = e2eSpecAt x cfg ops q metas pl g.key T := by
  apply (derived_readOut x C hall).flatAt_eq_spec hg T (specBucketPts_window q _ _ C.base.resPos hB).2
  intro i h1 h2 hnc hsp
  rw [derived_span_of_bucket x C SS hall g hg T hB i h2 h1
    ((hst _ (List.getElem_mem h1)).resolve_left (by simp [hnc]))] at hsp
  cases hsp

theorem derived_mem_iff_bucket (row : QRow) (hB : e2eBucket x cfg ops q metas pl row.key row.ts ≠ []) :
    row ∈ e2eFlat x cfg ops q metas pl ↔ row ∈ e2eSpecFlat x cfg ops q metas pl := by
  refine (derived_readOut x C hall).mem_iff_of row (fun _ =>
    ⟨fun g hg hk => ?_, fun _ => ⟨hB, derived_group_row_of_bucket x C SS _ _ hB⟩⟩)
  rw [← hk] at hB ⊢
  exact derived_flatAt_bucket x C SS hall hst g hg row.ts hB

end

end Zeno
