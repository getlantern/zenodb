/-
`Sequence.SubMerge` with an arbitrary sub-merger whose closure is, state by state, "merge the
image `g o` of the source state" equals `SubMerge` with the direct sub-merger of `e` on the source
sequence mapped through `g`.  Everything proved for the direct case (window, buckets, grid) then
applies unchanged.
-/
import ZenoModel.Lemmas.SubMergeSem
namespace Zeno

-- about lists in general
theorem modify_congr_mem {α : Type} (l : List α) (i : Nat) (f f' : α → α) (h : ∀ a ∈ l, f a = f' a) :
    l.modify i f = l.modify i f' := by
  apply List.ext_getElem
  · simp
  · intro n h1 h2
    rw [List.getElem_modify, List.getElem_modify]
    split
    · exact h _ (List.getElem_mem _)
    · rfl

/-- a sequence with every period's state mapped through `g` -/
def mapSeq (g : List Cell → List Cell) (q : Seq) : Seq := ⟨q.hi, q.cells.map g⟩
def mapSq (g : List Cell → List Cell) (s : Sq) : Sq := s.map (mapSeq g)

theorem asOf_mapSq (g : List Cell → List Cell) (s : Sq) (res : Int) : (mapSq g s).asOf res = s.asOf res := by
  cases s with
  | none => rfl
  | some q => simp [mapSq, mapSeq, Sq.asOf]

theorem truncUntil_map (g : List Cell → List Cell) (q : Seq) (res h' : Int) :
    truncUntil (mapSeq g q) res h' = mapSq g (truncUntil q res h') := by
  unfold truncUntil mapSq
  simp only [mapSeq, List.length_map]
  split
  · split
    · split
      · rfl
      · simp [mapSeq, List.map_drop]
    · rfl
  · rfl

theorem truncAsOf_map (g : List Cell → List Cell) (r : Seq) (res a' : Int) :
    truncAsOf (mapSeq g r) res a' = mapSq g (truncAsOf r res a') := by
  unfold truncAsOf mapSq
  simp only [mapSeq, List.length_map]
  split
  · split
    · rfl
    · split
      · rfl
      · simp [mapSeq, List.map_take]
  · rfl

/-- `Truncate` only counts periods -/
theorem truncate_mapSq (g : List Cell → List Cell) (s : Sq) (res asOf hi : Int) :
    (mapSq g s).truncate res asOf hi = mapSq g (s.truncate res asOf hi) := by
  cases s with
  | none => rfl
  | some q =>
    show Sq.truncate (some (mapSeq g q)) res asOf hi = _
    rw [truncate_eq, truncate_eq, truncUntil_map]
    have h1 : (mapSeq g q).hi = q.hi := rfl
    rw [h1]
    cases truncUntil q res (roundUntilDown hi res q.hi) with
    | none => rfl
    | some r => exact truncAsOf_map g r res _

/-- the closure `sm`, state by state, merges the image `g o` of the source state -/
def ActsAs (e c : Ex) (sm : SM) (g : List Cell → List Cell) (otherRes : Int) (p : Pt) : Prop :=
  ∀ (d o : List Cell) (os : List (List Cell)), WF e d → WF c o → sm.apply d (o :: os) otherRes p = e.mrg d (g o)

theorem subMergeLoop_map {e c : Ex} (hv : e.valid = true) (hp : e.noPtile = true) (sm : SM)
    (g : List Cell → List Cell) (otherRes : Int) (p : Pt) (hsm : ActsAs e c sm g otherRes p)
    (hg : ∀ o, WF c o → WF e (g o)) (scale off ss ssp : Int) (n : Nat) :
    ∀ (os : List (List Cell)) (po : Nat) (result : List (List Cell)), CellsWF c os → CellsWF e result →
      subMergeLoop sm otherRes p scale off ss ssp n po os result =
        subMergeLoop (.direct e) otherRes p scale off ss ssp n po (os.map g) result := by
  intro os
  induction os with
  | nil => intro po result _ _; rfl
  | cons o os ih =>
    intro po result hos hw
    have ho : WF c o := hos o (by simp)
    have hos' : CellsWF c os := fun x hx => hos x (by simp [hx])
    have hmod : ∀ i, result.modify i (fun d => sm.apply d (o :: os) otherRes p) =
        result.modify i (fun d => (SM.direct e).apply d (g o :: os.map g) otherRes p) := by
      intro i
      apply modify_congr_mem
      intro d hd
      rw [hsm d o os (hw d hd) ho, apply_direct hv hp (hw d hd) (hg o ho)]
    have hwm : ∀ i, CellsWF e (result.modify i (fun d => (SM.direct e).apply d (g o :: os.map g) otherRes p)) := by
      intro i
      apply cellsWF_modify hw
      intro d hd
      rw [apply_direct hv hp hd (hg o ho)]
      exact mrg_wf hv hp hd (hg o ho)
    simp only [subMergeLoop, List.map_cons, hmod]
    split
    · rfl
    · apply ih _ _ hos'
      split
      · split
        · exact hw
        · exact hwm _
      · exact hw

theorem subMerge_reduce {e c : Ex} (hv : e.valid = true) (hp : e.noPtile = true) (hs : e.shiftOf = 0) (sm : SM)
    (g : List Cell → List Cell) (otherRes : Int) (p : Pt) (hsm : ActsAs e c sm g otherRes p)
    (hg : ∀ o, WF c o → WF e (g o)) {res hi : Int} (hres : 0 < res) (hor : 0 < otherRes) (s other : Sq) (asOf : Int)
    (hr : RecvGrid e res hi s) (hwo : SqWF c other) :
    Sq.subMerge e c sm res otherRes s other p asOf hi 0 =
      Sq.subMerge e e (.direct e) res otherRes s (mapSq g other) p asOf hi 0 := by
  rw [subMerge_gen_eq e c sm hs, subMerge_direct_eq e hs, truncate_mapSq, asOf_mapSq]
  have hwt := truncate_wf hor other hwo asOf hi
  cases hto : other.truncate otherRes asOf hi with
  | none => rfl
  | some o0 =>
    rw [hto] at hwt
    simp only [mapSq, Option.map_some]
    have hlen : (mapSeq g o0).cells.length = o0.cells.length := by simp [mapSeq]
    rw [hlen]
    split
    · rfl
    · -- the bodies differ only in the loop
      unfold smBody smBodyG
      simp only [mapSeq]
      congr 2
      exact subMergeLoop_map hv hp sm g otherRes p hsm hg _ _ _ _ _ _ _ _ hwt
        (smAppend_wf res _ _ (smPrepend_wf res _ _ (recv_truncate_inv hres s hr asOf hi).1))

theorem at_mapSq {e c : Ex} (g : List Cell → List Cell) (hge : g c.empty = e.empty) (s : Sq) (res t : Int) :
    (mapSq g s).at e res t = g (s.at c res t) := by
  cases s with
  | none => exact hge.symm
  | some q =>
    simp only [mapSq, Option.map_some, mapSeq, Sq.at]
    split
    · rw [List.getD_eq_getElem?_getD, List.getD_eq_getElem?_getD, List.getElem?_map]
      cases q.cells[((q.hi - t) / res).toNat]? with
      | none => exact hge.symm
      | some x => rfl
    · exact hge.symm

theorem sqOk_mapSq (g : List Cell → List Cell) {res : Int} {s : Sq} (h : SqOk res s) : SqOk res (mapSq g s) := by
  cases s with
  | none => trivial
  | some q => exact ⟨h.aligned, by simpa [mapSeq] using h.bound, h.pos⟩

theorem sqWF_mapSq {e c : Ex} (g : List Cell → List Cell) (hg : ∀ o, WF c o → WF e (g o)) {s : Sq}
    (h : SqWF c s) : SqWF e (mapSq g s) := by
  cases s with
  | none => trivial
  | some q =>
    intro x hx
    simp only [mapSeq, List.mem_map] at hx
    obtain ⟨o, ho, rfl⟩ := hx
    exact hg o (h o ho)

end Zeno
