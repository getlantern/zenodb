/-
C11 lemmas about ORDER BY / LIMIT / OFFSET (`olo`): its normal form (sort, drop, take); over two
permutations of the same rows the results coincide where the order is total on the rows; and
if every partition returns its first `k` rows in ORDER BY order, the first `k` rows of the
ordered union of those are the first `k` rows of the ordered union of all rows.
-/
import ZenoModel.Lemmas.PlanList
import ZenoModel.Lemmas.Sort

namespace Zeno.PlanLemmas
open Zeno Zeno.Plan Zeno.SortLemmas

def emptyOlo (o : OLO) : Prop := o.orderBy = [] ∧ o.limit = 0 ∧ o.offset = 0

/-- ORDER BY decides: `lt` is a strict total order on the rows of `l` -/
structure StrictTotalOn (lt : FlatRow → FlatRow → Bool) (l : List FlatRow) : Prop where
  irrefl : ∀ a ∈ l, lt a a = false
  trans : ∀ a ∈ l, ∀ b ∈ l, ∀ c ∈ l, lt a b = true → lt b c = true → lt a c = true
  total : ∀ a ∈ l, ∀ b ∈ l, a ≠ b → lt a b = true ∨ lt b a = true

section order
variable {lt : FlatRow → FlatRow → Bool} {l l₁ l₂ : List FlatRow}

theorem StrictTotalOn.mono (h : StrictTotalOn lt l) (hs : ∀ a ∈ l₁, a ∈ l) : StrictTotalOn lt l₁ where
  irrefl := fun a ha => h.irrefl a (hs a ha)
  trans := fun a ha b hb c hc => h.trans a (hs a ha) b (hs b hb) c (hs c hc)
  total := fun a ha b hb => h.total a (hs a ha) b (hs b hb)

theorem StrictTotalOn.perm (h : StrictTotalOn lt l₁) (p : l₁.Perm l₂) : StrictTotalOn lt l₂ :=
  h.mono fun _ ha => p.mem_iff.mpr ha

theorem StrictTotalOn.asymm (h : StrictTotalOn lt l) {a b : FlatRow} (ha : a ∈ l) (hb : b ∈ l)
    (hab : lt a b = true) : lt b a = false := by
  cases hba : lt b a with
  | false => rfl
  | true => exact absurd (h.trans a ha b hb a ha hab hba) (by simp [h.irrefl a ha])

theorem StrictTotalOn.gt_of_ne (h : StrictTotalOn lt l) {a b : FlatRow} (ha : a ∈ l) (hb : b ∈ l)
    (hne : a ≠ b) (hab : lt a b = false) : lt b a = true :=
  (h.total a ha b hb hne).resolve_left (by simp [hab])

theorem StrictTotalOn.eq_of_not_lt (h : StrictTotalOn lt l) {a b : FlatRow} (ha : a ∈ l) (hb : b ∈ l)
    (hab : lt a b = false) (hba : lt b a = false) : a = b :=
  Classical.byContradiction fun e => absurd (h.gt_of_ne ha hb e hab) (by simp [hba])

theorem StrictTotalOn.weak (h : StrictTotalOn lt l) : WeakOn lt (· ∈ l) where
  asymm := fun a b ha hb hab => h.asymm ha hb hab
  negTrans := by
    intro a b c ha hb hc hab hbc
    by_cases e1 : a = b
    · exact e1 ▸ hbc
    · by_cases e2 : b = c
      · exact e2 ▸ hab
      · exact h.asymm hc ha (h.trans c hc b hb a ha (h.gt_of_ne hb hc e2 hbc) (h.gt_of_ne ha hb e1 hab))

theorem sorted_perm_eq (h : StrictTotalOn lt l) (h₁ : ∀ a ∈ l₁, a ∈ l) (s₁ : SortedBy lt l₁)
    (s₂ : SortedBy lt l₂) (p : l₁.Perm l₂) : l₁ = l₂ := by
  refine List.Perm.eq_of_pairwise ?_ s₁ s₂ p
  intro a b ha hb hab hba
  exact h.eq_of_not_lt (h₁ a ha) (h₁ b (p.mem_iff.mpr hb)) hba hab

theorem isortBy_sorted_of (h : StrictTotalOn lt l) (hs : ∀ a ∈ l₁, a ∈ l) : SortedBy lt (isortBy lt l₁) :=
  isortBy_sorted (h.mono hs).weak l₁ (fun _ hx => hx)

theorem isortBy_eq_of_perm (h : StrictTotalOn lt l₁) (p : l₁.Perm l₂) : isortBy lt l₁ = isortBy lt l₂ :=
  sorted_perm_eq h (fun _ ha => (isortBy_perm lt l₁).mem_iff.mp ha) (isortBy_sorted_of h fun _ ha => ha)
    (isortBy_sorted_of h fun _ ha => p.mem_iff.mpr ha)
    ((isortBy_perm lt l₁).trans (p.trans (isortBy_perm lt l₂).symm))

end order

/-- the rows in the order in which LIMIT / OFFSET see them -/
def ordered (o : OLO) (l : List FlatRow) : List FlatRow :=
  if o.orderBy = [] then l else isortBy (less o.orderBy) l

theorem ordered_perm (o : OLO) (l : List FlatRow) : (ordered o l).Perm l := by
  unfold ordered
  split
  · exact List.Perm.refl _
  · exact isortBy_perm _ l

theorem olo_eq (o : OLO) (l : List FlatRow) :
    olo o l = if o.limit = 0 then (ordered o l).drop o.offset
      else ((ordered o l).drop o.offset).take o.limit := by
  have : (if o.orderBy.length > 0 then isort o.orderBy l else l) = ordered o l := by
    by_cases h : o.orderBy = [] <;> simp [ordered, isort, h, List.length_pos_iff]
  simp only [olo, addOrderLimitOffset, limitOffset_eq, this]

theorem olo_empty {o : OLO} (h : emptyOlo o) (rows : List FlatRow) : olo o rows = rows := by
  simp [olo_eq, ordered, h.1, h.2.1, h.2.2]

theorem olo_nolimit_perm (o : OLO) (h1 : o.limit = 0) (h2 : o.offset = 0) (l : List FlatRow) :
    (olo o l).Perm l := by
  simp only [olo_eq, h1, h2, if_true, List.drop_zero]
  exact ordered_perm o l

theorem olo_length_of_perm (o : OLO) {l₁ l₂ : List FlatRow} (p : l₁.Perm l₂) :
    (olo o l₁).length = (olo o l₂).length := by
  have := ((ordered_perm o l₁).trans (p.trans (ordered_perm o l₂).symm)).length_eq
  simp only [olo_eq]
  split <;> simp [this]

theorem olo_eq_of_perm (o : OLO) {l₁ l₂ : List FlatRow} (p : l₁.Perm l₂)
    (hne : o.orderBy ≠ []) (h : StrictTotalOn (less o.orderBy) l₁) : olo o l₁ = olo o l₂ := by
  simp only [olo_eq, ordered, hne, if_false, isortBy_eq_of_perm h p]

/-! ### the first `k` rows

Which rows are among the first `k` is decided by counting: `x` is one of them iff fewer than `k`
rows come before it. -/

/-- the first `k` rows in ORDER BY order -/
def topk (lt : FlatRow → FlatRow → Bool) (k : Nat) (l : List FlatRow) : List FlatRow :=
  (isortBy lt l).take k

section topk
variable {lt : FlatRow → FlatRow → Bool} {L : List FlatRow}

theorem topk_subset (lt : FlatRow → FlatRow → Bool) (k : Nat) (l : List FlatRow) :
    ∀ a ∈ topk lt k l, a ∈ l :=
  fun _ ha => (isortBy_perm lt l).mem_iff.mp (List.mem_of_mem_take ha)

theorem topk_nodup (lt : FlatRow → FlatRow → Bool) (k : Nat) {l : List FlatRow} (hn : l.Nodup) :
    (topk lt k l).Nodup :=
  (List.take_sublist k _).nodup ((isortBy_perm lt l).nodup_iff.mpr hn)

theorem topk_sorted (h : StrictTotalOn lt L) {l : List FlatRow} (hl : ∀ a ∈ l, a ∈ L) (k : Nat) :
    SortedBy lt (topk lt k l) :=
  List.Pairwise.sublist (List.take_sublist k _) (isortBy_sorted_of h hl)

theorem take_spec_of_sorted (h : StrictTotalOn lt L) {x : FlatRow} (hx : x ∈ L) :
    ∀ (S : List FlatRow) (k : Nat), (∀ a ∈ S, a ∈ L) → SortedBy lt S →
      (S.take k).countP (lt · x) = min (S.countP (lt · x)) k ∧
      (x ∈ S.take k ↔ x ∈ S ∧ S.countP (lt · x) < k) := by
  intro S
  induction S with
  | nil => intro k _ _; simp
  | cons a S ih =>
    intro k hS hs
    have ha : a ∈ L := hS a (by simp)
    have hS' : ∀ b ∈ S, b ∈ L := fun b hb => hS b (by simp [hb])
    obtain ⟨hab, hs'⟩ := List.pairwise_cons.mp hs
    cases k with
    | zero => simp
    | succ k =>
      obtain ⟨ihc, ihm⟩ := ih k hS' hs'
      simp only [List.take_succ_cons, List.countP_cons, List.mem_cons, ihc, ihm]
      by_cases hax : lt a x = true
      · have hxa : x ≠ a := fun e => by simp [e, h.irrefl a ha] at hax
        simp only [hax, if_true, hxa, false_or, Nat.add_lt_add_iff_right, and_true]
        omega
      · -- then no row of `S` is before `x` either, and `x` can only be `a`
        have hax' : lt a x = false := by simpa using hax
        have c0 : S.countP (lt · x) = 0 := List.countP_eq_zero.mpr fun b hb => by
          simp [h.weak.negTrans b a x (hS' b hb) ha hx (hab b hb) hax']
        have hxS : x ∈ S → x = a := fun hxS => h.eq_of_not_lt hx ha (hab x hxS) hax'
        simp only [hax', c0, Bool.false_eq_true, if_false, Nat.zero_min, Nat.zero_add, Nat.zero_lt_succ,
          and_true, true_and]
        rw [or_iff_left_of_imp (fun hx' => hxS hx'.1), or_iff_left_of_imp hxS]

theorem topk_spec (h : StrictTotalOn lt L) {l : List FlatRow} (hl : ∀ a ∈ l, a ∈ L) (k : Nat)
    {x : FlatRow} (hx : x ∈ L) :
    (topk lt k l).countP (lt · x) = min (l.countP (lt · x)) k ∧
    (x ∈ topk lt k l ↔ x ∈ l ∧ l.countP (lt · x) < k) := by
  have hp := isortBy_perm lt l
  have := take_spec_of_sorted h hx (isortBy lt l) k (fun a ha => hl a (hp.mem_iff.mp ha)) (isortBy_sorted_of h hl)
  rwa [hp.countP_eq, hp.mem_iff] at this

theorem sum_min_le {α : Type} (f : α → Nat) (k : Nat) (l : List α) :
    (l.map (fun a => min (f a) k)).sum ≤ (l.map f).sum ∧
    ((l.map (fun a => min (f a) k)).sum < k → (l.map (fun a => min (f a) k)).sum = (l.map f).sum) := by
  induction l with
  | nil => simp
  | cons a l ih =>
    simp only [List.map_cons, List.sum_cons]
    omega

/-- the leader's first `k` rows of the union of the partitions' first `k` rows are the first
    `k` rows of the union of all rows -/
theorem topk_flatMap (h : StrictTotalOn lt L) (k : Nat) (ps : List (List FlatRow))
    (hL : ∀ a ∈ ps.flatten, a ∈ L) (hn : ps.flatten.Nodup) :
    topk lt k (ps.flatMap (topk lt k)) = topk lt k ps.flatten := by
  have hp : ∀ p ∈ ps, ∀ a ∈ p, a ∈ L := fun p hp a ha => hL a (List.mem_flatten.mpr ⟨p, hp, ha⟩)
  have hU : ∀ a ∈ ps.flatMap (topk lt k), a ∈ ps.flatten := by
    intro a ha
    obtain ⟨p, hp, hap⟩ := List.mem_flatMap.mp ha
    exact List.mem_flatten.mpr ⟨p, hp, topk_subset lt k p a hap⟩
  have hUL : ∀ a ∈ ps.flatMap (topk lt k), a ∈ L := fun a ha => hL a (hU a ha)
  have nU : (ps.flatMap (topk lt k)).Nodup := by
    obtain ⟨h1, h2⟩ := List.pairwise_flatten.mp hn
    refine List.pairwise_flatMap.mpr ⟨fun p hp => topk_nodup lt k (h1 p hp), h2.imp ?_⟩
    intro p p' hpp a ha b hb
    exact hpp a (topk_subset lt k p a ha) b (topk_subset lt k p' b hb)
  refine sorted_perm_eq h (fun a ha => hUL a (topk_subset lt k _ a ha)) (topk_sorted h hUL k)
    (topk_sorted h hL k) ((List.perm_ext_iff_of_nodup (topk_nodup lt k nU) (topk_nodup lt k hn)).mpr ?_)
  intro x
  by_cases hx : x ∈ L
  · -- the rows before `x`, partition by partition
    have hc : (ps.flatMap (topk lt k)).countP (lt · x) =
        (ps.map (fun p => min (p.countP (lt · x)) k)).sum := by
      rw [List.countP_flatMap]
      exact congrArg List.sum (List.map_congr_left fun p hpm => (topk_spec h (hp p hpm) k hx).1)
    obtain ⟨hs, hs'⟩ := sum_min_le (List.countP (lt · x)) k ps
    rw [(topk_spec h hUL k hx).2, (topk_spec h hL k hx).2, hc, List.countP_flatten]
    constructor
    · rintro ⟨hm, hr⟩
      exact ⟨hU x hm, by omega⟩
    · rintro ⟨hm, hr⟩
      obtain ⟨p, hpm, hxp⟩ := List.mem_flatten.mp hm
      have := (List.sublist_flatten_of_mem hpm).countP_le (p := (lt · x))
      rw [List.countP_flatten] at this
      exact ⟨List.mem_flatMap.mpr ⟨p, hpm, ((topk_spec h (hp p hpm) k hx).2).mpr ⟨hxp, by omega⟩⟩, by omega⟩
  · exact ⟨fun hm => absurd (hUL x (topk_subset lt k _ x hm)) hx,
      fun hm => absurd (hL x (topk_subset lt k _ x hm)) hx⟩

end topk

/-! ### ORDER BY / LIMIT on the partitions, then on the leader

`ps` are the rows of the partitions; every partition applies `partOlo o`, the leader `o`. -/

section parts
variable (o : OLO) (ps : List (List FlatRow))

theorem flatMap_partOlo_perm (hl : o.limit = 0) : (ps.flatMap (olo (partOlo o))).Perm ps.flatten := by
  rw [← List.flatMap_id]
  exact flatMap_perm_congr fun p _ => olo_nolimit_perm _ (by simp [partOlo, hl]) rfl p

theorem olo_parts_length (hl : o.limit = 0) :
    (olo o (ps.flatMap (olo (partOlo o)))).length = (olo o ps.flatten).length :=
  olo_length_of_perm o (flatMap_partOlo_perm o ps hl)

theorem olo_parts_eq (hl : o.limit = 0)
    (hord : o.orderBy ≠ [] → StrictTotalOn (less o.orderBy) ps.flatten) :
    olo o (ps.flatMap (olo (partOlo o))) = olo o ps.flatten := by
  by_cases hob : o.orderBy = []
  · have : olo (partOlo o) = id := funext (olo_empty ⟨hob, by simp [partOlo, hl], rfl⟩)
    rw [this, List.flatMap_id]
  · exact (olo_eq_of_perm o (flatMap_partOlo_perm o ps hl).symm hob (hord hob)).symm

theorem olo_topk (hob : o.orderBy ≠ []) (hl : o.limit > 0) (l : List FlatRow) :
    olo o l = (topk (less o.orderBy) (o.offset + o.limit) l).drop o.offset := by
  have : o.limit ≠ 0 := by omega
  simp [olo_eq, ordered, hob, this, topk, List.drop_take]

/-- a partition returns its first offset+limit rows -/
theorem olo_partOlo (hob : o.orderBy ≠ []) (hl : o.limit > 0) (l : List FlatRow) :
    olo (partOlo o) l = topk (less o.orderBy) (o.offset + o.limit) l := by
  have : o.limit ≠ 0 := by omega
  simp [olo_eq, ordered, partOlo, hob, hl, this, topk]

theorem olo_parts_eq_limit (hob : o.orderBy ≠ []) (hl : o.limit > 0)
    (hord : StrictTotalOn (less o.orderBy) ps.flatten) (hnd : ps.flatten.Nodup) :
    olo o (ps.flatMap (olo (partOlo o))) = olo o ps.flatten := by
  rw [olo_topk o hob hl, olo_topk o hob hl, funext (olo_partOlo o hob hl),
    topk_flatMap hord _ ps (fun _ ha => ha) hnd]

end parts
end Zeno.PlanLemmas
