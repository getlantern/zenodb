/-
Lemmas about M-SEQ.  A sequence is read through the view `Sq.at` (the state stored for the
period ending at `t`); `at_index` / `at_off` say what the view is in terms of the period
index, and every list operation the model performs on a sequence is characterised through
the view.  Then the semantics of Truncate.  At the head: the facts about `List.getD` and
`List.foldl` in general that this file and those above it share.  Before the view: the two
invariants the files above state their results under, `SqWF` (every stored state has the layout of
the expression) and `SqOk` (`SeqOk`: on the absolute grid, within positive time — so `until ≠ 0` and
the zero-time cases of `roundUntilUp`/`roundUntilDown` do not arise), with the closure of `CellsWF`
under the list operations.
-/
import ZenoModel.Model.Seq
import ZenoModel.Lemmas.Time
import ZenoModel.Lemmas.Expr

namespace Zeno

theorem getD_of_getElem? {α : Type} {l : List α} {i : Nat} {a : α} (h : l[i]? = some a) (d : α) :
    l.getD i d = a := by
  rw [List.getD_eq_getElem?_getD, h]
  rfl

theorem getD_map_of_getElem? {α β : Type} {l : List α} {i : Nat} {a : α} (h : l[i]? = some a) (f : α → β)
    (d : β) : (l.map f).getD i d = f a :=
  getD_of_getElem? (by rw [List.getElem?_map, h]; rfl) d

theorem getD_map_optMap {α β : Type} (l : List (Option α)) (f : α → β) (j : Nat) :
    (l.map (fun a => a.map f)).getD j none = (l.getD j none).map f := by
  simp only [List.getD_eq_getElem?_getD, List.getElem?_map]
  cases l[j]? <;> rfl

theorem foldl_congr_on {α β : Type} (F F' : β → α → β) (P : β → Prop) :
    ∀ (l : List α) (a : β), P a → (∀ a, P a → ∀ i ∈ l, F a i = F' a i ∧ P (F' a i)) →
      l.foldl F a = l.foldl F' a := by
  intro l
  induction l with
  | nil => intro a _ _; rfl
  | cons i l ih =>
    intro a ha h
    obtain ⟨h1, h2⟩ := h a ha i (by simp)
    simp only [List.foldl_cons]
    rw [h1]
    exact ih _ h2 (fun a' ha' i' hi' => h a' ha' i' (by simp [hi']))

theorem foldl_append_split {α β : Type} (P : List β → Prop) (s sl sr : List β → α → List β)
    (h : ∀ cl cr i, P cl → s (cl ++ cr) i = sl cl i ++ sr cr i ∧ P (sl cl i)) :
    ∀ (l : List α) (cl cr : List β), P cl → l.foldl s (cl ++ cr) = l.foldl sl cl ++ l.foldl sr cr := by
  intro l
  induction l with
  | nil => intro cl cr _; rfl
  | cons i l ih =>
    intro cl cr hcl
    simp only [List.foldl_cons]
    rw [(h cl cr i hcl).1, ih _ _ (h cl cr i hcl).2]

theorem foldl_fixed {α β : Type} (F : β → α → β) (a : β) : ∀ l : List α, (∀ i ∈ l, F a i = a) → l.foldl F a = a := by
  intro l
  induction l with
  | nil => intro _; rfl
  | cons i l ih =>
    intro h
    rw [List.foldl_cons, h i (by simp)]
    exact ih (fun i' hi' => h i' (by simp [hi']))

theorem foldl_congr_mem {α β : Type} (f g : β → α → β) (l : List α) (c : β)
    (h : ∀ c, ∀ a ∈ l, f c a = g c a) : l.foldl f c = l.foldl g c :=
  foldl_congr_on f g (fun _ => True) l c trivial (fun c _ a ha => ⟨h c a ha, trivial⟩)

theorem getD_ge (e : Ex) (l : List (List Cell)) (j : Nat) (h : l.length ≤ j) :
    l.getD j e.empty = e.empty := by
  rw [List.getD_eq_getElem?_getD, List.getElem?_eq_none h]; rfl

theorem getD_drop' (e : Ex) (l : List (List Cell)) (k j : Nat) :
    (l.drop k).getD j e.empty = l.getD (k + j) e.empty := by
  simp [List.getD_eq_getElem?_getD, List.getElem?_drop]

theorem getD_take' (e : Ex) (l : List (List Cell)) (k j : Nat) :
    (l.take k).getD j e.empty = if j < k then l.getD j e.empty else e.empty := by
  simp only [List.getD_eq_getElem?_getD, List.getElem?_take]
  split <;> simp

theorem getD_replicate' (e : Ex) (n j : Nat) : (List.replicate n e.empty).getD j e.empty = e.empty := by
  rw [List.getD_eq_getElem?_getD, List.getElem?_replicate]
  split <;> rfl

theorem getD_append' (e : Ex) (l1 l2 : List (List Cell)) (i : Nat) :
    (l1 ++ l2).getD i e.empty =
      if i < l1.length then l1.getD i e.empty else l2.getD (i - l1.length) e.empty := by
  simp only [List.getD_eq_getElem?_getD]
  split
  · rw [List.getElem?_append_left ‹_›]
  · rw [List.getElem?_append_right (by omega)]

theorem getD_append_replicate (e : Ex) (g : Nat) (cs : List (List Cell)) (i : Nat) :
    (List.replicate g e.empty ++ cs).getD i e.empty = if i < g then e.empty else cs.getD (i - g) e.empty := by
  rw [getD_append', List.length_replicate, getD_replicate']

theorem getD_modify' (e : Ex) (l : List (List Cell)) (i j : Nat) (f : List Cell → List Cell) :
    (l.modify i f).getD j e.empty = if j = i ∧ i < l.length then f (l.getD i e.empty) else l.getD j e.empty := by
  simp only [List.getD_eq_getElem?_getD, List.getElem?_modify]
  by_cases hji : j = i
  · subst hji
    by_cases hl : j < l.length
    · simp [hl]
    · simp [hl]
  · have : ¬ i = j := fun h => hji h.symm
    simp [hji, this]

theorem getD_fit (e : Ex) (n : Nat) (cs : List (List Cell)) (i : Nat) :
    (fit e n cs).getD i e.empty = if i < n then cs.getD i e.empty else e.empty := by
  unfold fit
  rw [getD_append', getD_take', getD_replicate', List.length_take]
  by_cases hn : i < n
  · rw [if_pos hn]
    split
    · rfl
    · exact (getD_ge e cs i (by omega)).symm
  · rw [if_neg hn, if_neg (by omega)]

theorem fit_self (e : Ex) (cs : List (List Cell)) : fit e cs.length cs = cs := by
  simp [fit]

theorem fit_length (e : Ex) (n : Nat) (cs : List (List Cell)) : (fit e n cs).length = n := by
  simp only [fit, List.length_append, List.length_take, List.length_replicate]
  omega

def CellsWF (e : Ex) (cs : List (List Cell)) : Prop := ∀ c ∈ cs, WF e c

def SqWF (e : Ex) : Sq → Prop
  | none => True
  | some q => CellsWF e q.cells

/-- a stored sequence is on the absolute grid and does not reach back before time 0 -/
structure SeqOk (res : Int) (q : Seq) : Prop where
  aligned : q.hi % res = 0
  bound : (q.cells.length : Int) * res ≤ q.hi
  pos : 0 < q.hi

def SqOk (res : Int) : Sq → Prop
  | none => True
  | some q => SeqOk res q

theorem getD_wf {e : Ex} {cs : List (List Cell)} (h : CellsWF e cs) (i : Nat) : WF e (cs.getD i e.empty) := by
  rw [List.getD_eq_getElem?_getD]
  cases hg : cs[i]? with
  | none => exact wf_empty e
  | some c => exact h c (List.mem_of_getElem? hg)

theorem cellsWF_of_getD {e : Ex} {cs : List (List Cell)} (h : ∀ i, WF e (cs.getD i e.empty)) : CellsWF e cs := by
  intro c hc
  obtain ⟨i, hi, rfl⟩ := List.getElem_of_mem hc
  simpa [List.getD_eq_getElem?_getD, List.getElem?_eq_getElem hi] using h i

theorem cellsWF_replicate (e : Ex) (n : Nat) : CellsWF e (List.replicate n e.empty) := by
  intro c hc
  rw [(List.mem_replicate.mp hc).2]
  exact wf_empty e

theorem cellsWF_append {e : Ex} {a b : List (List Cell)} (ha : CellsWF e a) (hb : CellsWF e b) :
    CellsWF e (a ++ b) := by
  intro c hc
  rw [List.mem_append] at hc
  cases hc with
  | inl h => exact ha c h
  | inr h => exact hb c h

theorem cellsWF_take {e : Ex} {cs : List (List Cell)} (h : CellsWF e cs) (n : Nat) : CellsWF e (cs.take n) :=
  fun c hc => h c (List.mem_of_mem_take hc)

theorem cellsWF_drop {e : Ex} {cs : List (List Cell)} (h : CellsWF e cs) (n : Nat) : CellsWF e (cs.drop n) :=
  fun c hc => h c (List.mem_of_mem_drop hc)

theorem cellsWF_fit {e : Ex} {cs : List (List Cell)} (h : CellsWF e cs) (n : Nat) : CellsWF e (fit e n cs) :=
  cellsWF_append (cellsWF_take h n) (cellsWF_replicate e _)

theorem cellsWF_modify {e : Ex} {cs : List (List Cell)} (h : CellsWF e cs) (i : Nat)
    (f : List Cell → List Cell) (hf : ∀ c, WF e c → WF e (f c)) : CellsWF e (cs.modify i f) := by
  intro c hc
  obtain ⟨j, hj, rfl⟩ := List.getElem_of_mem hc
  rw [List.getElem_modify]
  split
  · exact hf _ (h _ (List.getElem_mem _))
  · exact h _ (List.getElem_mem _)

theorem at_some (e : Ex) (res hi : Int) (cells : List (List Cell)) (t : Int) :
    Sq.at (some ⟨hi, cells⟩) e res t =
      if (hi - t) % res = 0 ∧ t ≤ hi then cells.getD ((hi - t) / res).toNat e.empty else e.empty := rfl

theorem at_none (e : Ex) (res t : Int) : Sq.at none e res t = e.empty := rfl

theorem at_index (e : Ex) {res : Int} (h : 0 < res) {hi t : Int} {i : Nat} (ht : hi - t = i * res)
    (cells : List (List Cell)) : Sq.at (some ⟨hi, cells⟩) e res t = cells.getD i e.empty := by
  have := natCast_mul_nonneg i h
  rw [at_some, ht, Int.mul_emod_left, Int.mul_ediv_cancel _ (Int.ne_of_gt h), Int.toNat_natCast,
    if_pos ⟨rfl, by omega⟩]

theorem at_off (e : Ex) {res hi t : Int} (ht : ¬ ((hi - t) % res = 0 ∧ t ≤ hi)) (cells : List (List Cell)) :
    Sq.at (some ⟨hi, cells⟩) e res t = e.empty :=
  if_neg ht

theorem at_above (e : Ex) (res : Int) (q : Seq) (t : Int) (ht : q.hi < t) :
    Sq.at (some q) e res t = e.empty :=
  at_off e (fun hc => by omega) q.cells

theorem at_off_grid (e : Ex) {res : Int} (s : Sq) (hs : SqOk res s) (t : Int) (ht : t % res ≠ 0) :
    s.at e res t = e.empty := by
  cases s with
  | none => rfl
  | some q =>
    refine at_off e (fun hc => ht ?_) q.cells
    have := emod_sub_of hs.aligned hc.1
    rwa [Int.sub_sub_self] at this

theorem at_beyond (e : Ex) {res : Int} (h : 0 < res) (q : Seq) (t : Int) (d : Int)
    (hd : (q.cells.length : Int) ≤ d) (ht : t ≤ q.hi - d * res) :
    Sq.at (some q) e res t = e.empty := by
  by_cases hc : (q.hi - t) % res = 0 ∧ t ≤ q.hi
  · obtain ⟨i, hi⟩ := grid_index h hc.1 hc.2
    rw [at_index e h hi]
    apply getD_ge
    have := Int.mul_le_mul_of_nonneg_right hd (Int.le_of_lt h)
    exact (natCast_mul_le h).mp (by omega)
  · exact at_off e hc _

theorem at_wf {e : Ex} {q : Seq} (hq : CellsWF e q.cells) (res t : Int) : WF e (Sq.at (some q) e res t) := by
  rw [show q = ⟨q.hi, q.cells⟩ from rfl, at_some]
  split
  · exact getD_wf hq _
  · exact wf_empty e

theorem sqAt_wf {e : Ex} {s : Sq} (hw : SqWF e s) (res T : Int) : WF e (s.at e res T) := by
  cases s with
  | none => exact wf_empty e
  | some q => exact at_wf hw res T

theorem at_congr (e : Ex) (res hi t : Int) {cs cs' : List (List Cell)}
    (h : ∀ i, cs.getD i e.empty = cs'.getD i e.empty) :
    Sq.at (some ⟨hi, cs⟩) e res t = Sq.at (some ⟨hi, cs'⟩) e res t := by
  rw [at_some, at_some, h]

theorem at_drop (e : Ex) {res : Int} (h : 0 < res) (hi : Int) (cells : List (List Cell)) (k : Nat) (t : Int) :
    Sq.at (some ⟨hi - k * res, cells.drop k⟩) e res t =
      if t ≤ hi - k * res then Sq.at (some ⟨hi, cells⟩) e res t else e.empty := by
  by_cases hc : (hi - k * res - t) % res = 0 ∧ t ≤ hi - k * res
  · obtain ⟨i, hi'⟩ := grid_index h hc.1 hc.2
    rw [if_pos hc.2, at_index e h hi', at_index e h (i := k + i) (by rw [natCast_add_mul]; omega), getD_drop']
  · rw [at_off e hc]
    split
    · refine (at_off e (fun hc' => hc ⟨?_, by omega⟩) _).symm
      rw [show hi - k * res - t = hi - t - k * res by omega, Int.sub_mul_emod_self_right]
      exact hc'.1
    · rfl

theorem at_take (e : Ex) {res : Int} (h : 0 < res) (hi : Int) (cells : List (List Cell)) (m : Nat) (t : Int) :
    Sq.at (some ⟨hi, cells.take m⟩) e res t =
      if hi - m * res < t then Sq.at (some ⟨hi, cells⟩) e res t else e.empty := by
  by_cases hc : (hi - t) % res = 0 ∧ t ≤ hi
  · obtain ⟨i, hi'⟩ := grid_index h hc.1 hc.2
    have := natCast_mul_lt h (a := i) (b := m)
    rw [at_index e h hi', at_index e h hi', getD_take']
    by_cases him : i < m
    · rw [if_pos him, if_pos (by omega)]
    · rw [if_neg him, if_neg (by omega)]
  · rw [at_off e hc, at_off e hc, ite_self]

theorem at_prepend_empties (e : Ex) {res : Int} (h : 0 < res) (hi : Int) (cells : List (List Cell)) (g : Nat) (t : Int) :
    Sq.at (some ⟨hi + g * res, List.replicate g e.empty ++ cells⟩) e res t = Sq.at (some ⟨hi, cells⟩) e res t := by
  by_cases hc : (hi + g * res - t) % res = 0 ∧ t ≤ hi + g * res
  · obtain ⟨i, hi'⟩ := grid_index h hc.1 hc.2
    rw [at_index e h hi', getD_append_replicate]
    by_cases hig : i < g
    · have := (natCast_mul_lt h).mpr hig
      rw [if_pos hig, at_off e (fun hc' => by omega)]
    · obtain ⟨j, rfl⟩ := Nat.exists_eq_add_of_le (Nat.le_of_not_lt hig)
      rw [natCast_add_mul] at hi'
      rw [if_neg hig, at_index e h (i := j) (by omega), Nat.add_sub_cancel_left]
  · have hg := natCast_mul_nonneg g h
    rw [at_off e hc]
    refine (at_off e (fun hc' => hc ⟨?_, by omega⟩) _).symm
    rw [show hi + g * res - t = hi - t + g * res by omega, Int.add_mul_emod_self_right]
    exact hc'.1

theorem at_modify (e : Ex) {res : Int} (h : 0 < res) (hi : Int) (cells : List (List Cell)) (k : Nat)
    (f : List Cell → List Cell) (t : Int) :
    Sq.at (some ⟨hi, cells.modify k f⟩) e res t =
      if hi - t = k * res ∧ k < cells.length then f (Sq.at (some ⟨hi, cells⟩) e res t)
      else Sq.at (some ⟨hi, cells⟩) e res t := by
  by_cases hc : (hi - t) % res = 0 ∧ t ≤ hi
  · obtain ⟨i, hi'⟩ := grid_index h hc.1 hc.2
    rw [at_index e h hi', at_index e h hi', getD_modify', hi']
    simp only [natCast_mul_inj h]
    by_cases hik : i = k
    · rw [hik]
    · rw [if_neg (fun hh => hik hh.1), if_neg (fun hh => hik hh.1)]
  · have hk := natCast_mul_nonneg k h
    rw [at_off e hc, at_off e hc, if_neg]
    exact fun hh => hc ⟨by rw [hh.1]; exact Int.mul_emod_left k res, by omega⟩

theorem at_grow (e : Ex) (res hi t : Int) (cells : List (List Cell)) (n : Nat) :
    Sq.at (some ⟨hi, if n > cells.length then fit e n cells else cells⟩) e res t =
      Sq.at (some ⟨hi, cells⟩) e res t := by
  split
  · refine at_congr e res hi t fun i => ?_
    rw [getD_fit]
    split
    · rfl
    · exact (getD_ge e cells i (by omega)).symm
  · rfl

theorem at_nil (e : Ex) (res hi t : Int) : Sq.at (some ⟨hi, []⟩) e res t = e.empty := by
  rw [at_some]
  split <;> rfl

theorem at_append_empties (e : Ex) (res hi : Int) (cells : List (List Cell)) (n : Nat) (T : Int) :
    Sq.at (some ⟨hi, cells ++ List.replicate n e.empty⟩) e res T = Sq.at (some ⟨hi, cells⟩) e res T := by
  refine at_congr e res hi T fun i => ?_
  rw [getD_append', getD_replicate']
  split
  · rfl
  · exact (getD_ge e cells i (by omega)).symm

theorem at_single_empty (e : Ex) (res hi T : Int) : Sq.at (some ⟨hi, [e.empty]⟩) e res T = e.empty :=
  (at_append_empties e res hi [] 1 T).trans (at_nil e res hi T)

/-- the `until` half of Truncate -/
def truncUntil (q : Seq) (res h' : Int) : Sq :=
  if h' ≠ 0 then
    let periodsToRemove := (q.hi - h').tdiv res
    if periodsToRemove > 0 then
      if periodsToRemove.toNat ≥ q.cells.length then none
      else some ⟨h', q.cells.drop periodsToRemove.toNat⟩
    else some q
  else some q

/-- the `asOf` half of Truncate -/
def truncAsOf (r : Seq) (res a' : Int) : Sq :=
  if a' ≠ 0 then
    let maxPeriods := (r.hi - a').tdiv res
    if maxPeriods ≤ 0 then none
    else if maxPeriods.toNat ≥ r.cells.length then some r
    else some ⟨r.hi, r.cells.take maxPeriods.toNat⟩
  else some r

theorem truncate_eq (q : Seq) (res asOf hi : Int) :
    Sq.truncate (some q) res asOf hi =
      match truncUntil q res (roundUntilDown hi res q.hi) with
      | none => none
      | some r => truncAsOf r res (roundUntilDown asOf res q.hi) := rfl

theorem truncUntil_some {q r : Seq} {res h' : Int} (hu : truncUntil q res h' = some r) :
    (r.hi = q.hi ∨ (h' ≠ 0 ∧ r.hi = h')) ∧ ∃ n, r.cells = q.cells.drop n := by
  unfold truncUntil at hu
  split at hu
  · simp only at hu
    split at hu
    · split at hu
      · cases hu
      · rename_i hz _ _
        cases hu
        exact ⟨Or.inr ⟨hz, rfl⟩, _, rfl⟩
    · cases hu
      exact ⟨Or.inl rfl, 0, rfl⟩
  · cases hu
    exact ⟨Or.inl rfl, 0, rfl⟩

theorem truncAsOf_some {res : Int} (h : 0 < res) {r0 r : Seq} {a' : Int} (hr : truncAsOf r0 res a' = some r) :
    r.hi = r0.hi ∧ (∃ n, r.cells = r0.cells.take n) ∧ (a' ≠ 0 → a' < r.hi) := by
  unfold truncAsOf at hr
  split at hr
  · simp only at hr
    split at hr
    · cases hr
    · have hlt : a' < r0.hi := Int.not_le.mp fun hle => by
        have := tdiv_nonpos_of (a := r0.hi - a') (by omega) h
        omega
      split at hr
      · cases hr
        exact ⟨rfl, ⟨_, List.take_length.symm⟩, fun _ => hlt⟩
      · cases hr
        exact ⟨rfl, ⟨_, rfl⟩, fun _ => hlt⟩
  · rename_i hz
    cases hr
    exact ⟨rfl, ⟨_, List.take_length.symm⟩, fun hne => absurd hne hz⟩

theorem at_truncUntil (e : Ex) {res : Int} (h : 0 < res) (q : Seq) (h' : Int)
    (hg : h' = 0 ∨ (q.hi - h') % res = 0) (t : Int) :
    (truncUntil q res h').at e res t = if h' = 0 ∨ t ≤ h' then Sq.at (some q) e res t else e.empty := by
  unfold truncUntil
  by_cases hz : h' = 0
  · simp [hz]
  · simp only [ne_eq, hz, not_false_eq_true, if_true, false_or]
    rcases grid_tdiv h (hg.resolve_left hz) with ⟨hle, ht⟩ | ⟨d, hd0, hd, ht⟩
    · rw [if_neg (by omega)]
      split
      · rfl
      · exact at_above e res q t (by omega)
    · rw [ht, if_pos (by omega), Int.toNat_natCast, show h' = q.hi - d * res by omega]
      split
      · rename_i hbig
        rw [← at_drop e h, List.drop_eq_nil_of_le hbig, at_nil, at_none]
      · exact at_drop e h q.hi q.cells d t

theorem at_truncAsOf (e : Ex) {res : Int} (h : 0 < res) (r : Seq) (a' : Int)
    (hg : a' = 0 ∨ (r.hi - a') % res = 0) (t : Int) :
    (truncAsOf r res a').at e res t = if a' = 0 ∨ a' < t then Sq.at (some r) e res t else e.empty := by
  unfold truncAsOf
  by_cases hz : a' = 0
  · simp [hz]
  · simp only [ne_eq, hz, not_false_eq_true, if_true, false_or]
    rcases grid_tdiv h (hg.resolve_left hz) with ⟨hle, ht⟩ | ⟨d, hd0, hd, ht⟩
    · rw [if_pos ht, at_none]
      split
      · exact (at_above e res r t (by omega)).symm
      · rfl
    · rw [ht, if_neg (by omega), Int.toNat_natCast, show a' = r.hi - d * res by omega]
      split
      · rename_i hbig
        rw [← at_take e h, List.take_of_length_le hbig]
      · exact at_take e h r.hi r.cells d t

/-- Semantics of `Sequence.Truncate`: exactly the periods with `asOf' < end ≤ until'` are kept
    (primes = the bounds rounded down on the sequence's own grid, `0` = no bound), with their
    states unchanged. -/
theorem sem_truncate (e : Ex) {res : Int} (h : 0 < res) (q : Seq) (asOf hi : Int) (t : Int) :
    (Sq.truncate (some q) res asOf hi).at e res t =
      if (roundUntilDown asOf res q.hi = 0 ∨ roundUntilDown asOf res q.hi < t) ∧
         (roundUntilDown hi res q.hi = 0 ∨ t ≤ roundUntilDown hi res q.hi)
      then Sq.at (some q) e res t else e.empty := by
  rw [truncate_eq]
  have ga := roundUntilDown_grid (t := asOf) (hi := q.hi) h
  have gh := roundUntilDown_grid (t := hi) (hi := q.hi) h
  generalize roundUntilDown asOf res q.hi = a' at ga ⊢
  generalize roundUntilDown hi res q.hi = h' at gh ⊢
  have hU := at_truncUntil e h q h' gh t
  cases hr : truncUntil q res h' with
  | none =>
      rw [hr, at_none] at hU
      simp only [at_none]
      split
      · rename_i hc
        rw [hU, if_pos hc.2]
      · rfl
  | some r =>
      have gr : a' = 0 ∨ (r.hi - a') % res = 0 := by
        refine ga.imp_right fun h1 => ?_
        rcases (truncUntil_some hr).1 with heq | ⟨hne, heq⟩
        · rw [heq]
          exact h1
        · rw [heq]
          exact grid_trans (grid_symm (gh.resolve_left hne)) h1
      rw [hr] at hU
      simp only
      rw [at_truncAsOf e h r a' gr t, hU]
      by_cases c1 : a' = 0 ∨ a' < t <;> by_cases c2 : h' = 0 ∨ t ≤ h' <;> simp [c1, c2]

/-- a non-empty result of `Truncate` stays on the operand's grid, keeps well-formed states and
    ends after the (rounded) asOf -/
theorem truncate_some (e : Ex) {res : Int} (h : 0 < res) {q r : Seq} {a hh : Int}
    (hr : Sq.truncate (some q) res a hh = some r) :
    (q.hi - r.hi) % res = 0 ∧ (CellsWF e q.cells → CellsWF e r.cells) ∧
      (roundUntilDown a res q.hi ≠ 0 → roundUntilDown a res q.hi < r.hi) := by
  rw [truncate_eq] at hr
  have gh := roundUntilDown_grid (t := hh) (res := res) (hi := q.hi) h
  generalize roundUntilDown hh res q.hi = h' at *
  cases hu : truncUntil q res h' with
  | none =>
    rw [hu] at hr
    cases hr
  | some r0 =>
    rw [hu] at hr
    obtain ⟨h1, n, hn⟩ := truncUntil_some hu
    obtain ⟨h2, ⟨m, hm⟩, h3⟩ := truncAsOf_some h hr
    refine ⟨?_, fun hw => hm ▸ cellsWF_take (hn ▸ cellsWF_drop hw n) m, h3⟩
    rw [h2]
    rcases h1 with heq | ⟨hne, heq⟩
    · rw [heq]
      simp
    · rw [heq]
      exact gh.resolve_left hne

theorem truncate_wf {e : Ex} {res : Int} (h : 0 < res) (s : Sq) (hs : SqWF e s) (a b : Int) :
    SqWF e (s.truncate res a b) := by
  cases s with
  | none => trivial
  | some q =>
    cases hts : Sq.truncate (some q) res a b with
    | none => trivial
    | some r => exact (truncate_some e h hts).2.1 hs

/-- `Truncate` with only an asOf bound keeps a sequence on the grid and well-formed -/
theorem truncate_inv {e : Ex} {res : Int} (h : 0 < res) (s : Sq) (hs : SqOk res s) (ws : SqWF e s) (asOf : Int) :
    SqOk res (Sq.truncate s res asOf 0) ∧ SqWF e (Sq.truncate s res asOf 0) := by
  cases s with
  | none => exact ⟨trivial, trivial⟩
  | some q =>
    have hu : truncUntil q res (roundUntilDown 0 res q.hi) = some q := by
      simp [truncUntil, roundUntilDown_zero]
    rw [truncate_eq, hu]
    simp only
    cases hr : truncAsOf q res (roundUntilDown asOf res q.hi) with
    | none => exact ⟨trivial, trivial⟩
    | some r =>
      obtain ⟨hhi, ⟨n, hn⟩, _⟩ := truncAsOf_some h hr
      refine ⟨⟨hhi ▸ hs.aligned, Int.le_trans ?_ (hhi ▸ hs.bound), hhi ▸ hs.pos⟩,
        show CellsWF e r.cells from hn ▸ cellsWF_take ws n⟩
      apply Int.mul_le_mul_of_nonneg_right _ (Int.le_of_lt h)
      rw [hn, List.length_take]
      omega

/-- truncating to the retention window keeps every live period as it is -/
theorem truncate_live (e : Ex) {res : Int} (h : 0 < res) (s : Sq) (tb T : Int) (hgt : T > tb) :
    (Sq.truncate s res tb 0).at e res T = s.at e res T := by
  cases s with
  | none => rfl
  | some q =>
    have ha : roundUntilDown tb res q.hi = 0 ∨ roundUntilDown tb res q.hi < T := by
      by_cases htb : tb = 0
      · left; rw [htb, roundUntilDown_zero]
      · have := (roundUntilDown_bounds (hi := q.hi) h htb).2.1
        exact Or.inr (by omega)
    rw [sem_truncate e h q tb 0 T, if_pos ⟨ha, Or.inl (roundUntilDown_zero ..)⟩]

end Zeno
