/-
The order of Go type names used by `compare` (core/compare.go, after /repo 8a9a760) for values
of different dynamic types: `strings.Compare(reflect.TypeOf(a).String(), reflect.TypeOf(b).String())`.
`ord v` is the position of a value's type name in the byte-wise order of all type names
(nil first); `typeName_lt_iff` / `typeName_eq_iff` reduce comparisons of type names to `ord`.
The one evaluated fact is that the table `typeNames` is strictly increasing.
-/
import ZenoModel.Model.Sort

namespace Zeno.SortLemmas
open Zeno

def kidx : IntKind → Nat
  | .int => 5 | .i16 => 6 | .i32 => 7 | .i64 => 8 | .i8 => 9
  | .uint => 12 | .u16 => 13 | .u32 => 14 | .u64 => 15 | .byte => 16

/-- nil first, then the position of the type name in the byte-wise order of all type names -/
def ord : DimVal → Nat
  | .nil => 0
  | .other _ => 1 | .bool _ => 2 | .float s _ => if s then 3 else 4
  | .int k _ => kidx k | .str _ => 10 | .time _ => 11

/-- the values of `DimVal.typeName` (`"<nil>"` and the 16 Go types a dimension can hold), in
    byte-wise order (index = `ord`) -/
def typeNames : List String := ["<nil>", "[]uint8", "bool", "float32", "float64", "int", "int16", "int32", "int64",
  "int8", "string", "time.Time", "uint", "uint16", "uint32", "uint64", "uint8"]

theorem typeNames_sorted : typeNames.Pairwise (· < ·) := by decide +kernel

theorem getElem_lt_iff_of_sorted {α : Type} [LT α] [LE α] [Std.IsLinearOrder α] [Std.LawfulOrderLT α]
    {l : List α} (h : l.Pairwise (· < ·)) {i j : Nat} (hi : i < l.length) (hj : j < l.length) :
    l[i] < l[j] ↔ i < j := by
  rw [List.pairwise_iff_getElem] at h
  constructor
  · intro hlt
    apply Nat.lt_of_not_le
    intro hle
    rcases Nat.lt_or_eq_of_le hle with hji | rfl
    · exact Std.not_gt_of_lt hlt (h j i hj hi hji)
    · exact Std.lt_irrefl hlt
  · exact h i j hi hj

theorem getElem_eq_iff_of_sorted {α : Type} [LT α] [LE α] [Std.IsLinearOrder α] [Std.LawfulOrderLT α]
    {l : List α} (h : l.Pairwise (· < ·)) {i j : Nat} (hi : i < l.length) (hj : j < l.length) :
    l[i] = l[j] ↔ i = j := by
  constructor
  · intro he
    have h₁ := mt (getElem_lt_iff_of_sorted h hi hj).mpr (he ▸ Std.lt_irrefl)
    have h₂ := mt (getElem_lt_iff_of_sorted h hj hi).mpr (he ▸ Std.lt_irrefl)
    omega
  · rintro rfl
    rfl

theorem typeNames_lt : ∀ i j : Fin 17, 0 < i.val → 0 < j.val → (typeNames[i] < typeNames[j] ↔ i.val < j.val) :=
  fun i j _ _ => getElem_lt_iff_of_sorted typeNames_sorted i.isLt j.isLt

theorem typeNames_eq : ∀ i j : Fin 17, (typeNames[i] = typeNames[j] ↔ i.val = j.val) :=
  fun i j => getElem_eq_iff_of_sorted typeNames_sorted i.isLt j.isLt

theorem ord_lt (a : DimVal) : ord a < 17 := by
  cases a with
  | int k v => cases k <;> simp [ord, kidx]
  | float s v => cases s <;> simp [ord]
  | _ => simp [ord]

theorem typeName_eq (a : DimVal) : a.typeName = typeNames[ord a]'(ord_lt a) := by
  cases a with
  | int k v => cases k <;> rfl
  | float s v => cases s <;> rfl
  | _ => rfl

theorem ord_pos {a : DimVal} (h : a ≠ .nil) : 0 < ord a := by
  cases a with
  | nil => exact absurd rfl h
  | int k v => cases k <;> simp [ord, kidx]
  | float s v => cases s <;> simp [ord]
  | _ => simp [ord]

theorem typeName_lt_iff (a b : DimVal) : a.typeName < b.typeName ↔ ord a < ord b := by
  rw [typeName_eq a, typeName_eq b]
  exact getElem_lt_iff_of_sorted typeNames_sorted (ord_lt a) (ord_lt b)

theorem typeName_eq_iff (a b : DimVal) : a.typeName = b.typeName ↔ ord a = ord b := by
  rw [typeName_eq a, typeName_eq b]
  exact getElem_eq_iff_of_sorted typeNames_sorted (ord_lt a) (ord_lt b)

/-- which case of `compare`'s type switch a value falls in (all integer types, and both float
    widths, compare alike) -/
def cls : DimVal → Nat
  | .nil => 0 | .other _ => 1 | .bool _ => 2 | .float _ _ => 3 | .int _ _ => 4 | .str _ => 5 | .time _ => 6

theorem cls_eq_of_ord_eq {a b : DimVal} (h : ord a = ord b) : cls a = cls b := by
  have tab : ∀ c, cls c = [0, 1, 2, 3, 3, 4, 4, 4, 4, 4, 5, 6, 4, 4, 4, 4, 4].getD (ord c) 0 := by
    intro c
    cases c with
    | int k v => cases k <;> rfl
    | float s v => cases s <;> rfl
    | _ => rfl
  rw [tab a, tab b, h]

end Zeno.SortLemmas
