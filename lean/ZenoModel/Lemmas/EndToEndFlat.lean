/-
`core.Flatten` on its own.  For one row (`flattenRow`) it iterates the period ends from the earliest
asOf to the latest until of the row's non-empty columns; when all columns lie on one grid, a row
comes out for exactly the grid times `T` at which the loop body (`flatAt`) yields one: a non-constant
expression has a value only inside its column's span, so nothing is lost outside the loop bounds.
-/
import ZenoModel.Lemmas.Time
import ZenoModel.Model.Query
namespace Zeno

/-- the column is empty or lies on the grid of step `res` anchored at `hi0` (after the zero time) -/
def OnGrid (res hi0 : Int) : Sq → Prop
  | none => True
  | some q => (hi0 - q.hi) % res = 0 ∧ q.hi ≠ 0

/-- the period ending at `T` lies between the sequence's asOf (exclusive) and until (inclusive) -/
def covers (q : Seq) (res T : Int) : Prop := q.hi - (q.cells.length : Int) * res < T ∧ T ≤ q.hi

/-- the column is there and its sequence `covers` the period ending at `T` -/
def sqCovers (s : Sq) (res T : Int) : Prop := ∃ q, s = some q ∧ covers q res T

theorem covers_len_pos {res : Int} {q : Seq} {T : Int} (hc : covers q res T) : 0 < q.cells.length :=
  Nat.pos_of_ne_zero fun h0 => by
    unfold covers at hc
    rw [h0] at hc
    omega

theorem valueAtTime_on_grid (x : Ext) (e : Ex) (hnc : e.isConstant = false) {res hi0 : Int} (hres : 0 < res)
    (q : Seq) (hg : OnGrid res hi0 (some q)) (T : Int) (hT : (hi0 - T) % res = 0) :
    Sq.valueAtTime x (some q) e res T =
      if T ≤ q.hi then (q.cells[((q.hi - T) / res).toNat]?).bind (fun c => e.val x c) else none := by
  have hq := grid_trans (grid_symm hg.1) hT
  unfold Sq.valueAtTime
  rw [if_neg (by simp [hnc])]
  simp only [roundUntilUp_aligned hg.2 hq]
  by_cases hle : T ≤ q.hi
  · rw [if_neg (by omega), if_pos hle, Int.tdiv_eq_ediv_of_nonneg (by omega)]
    have hnn : 0 ≤ (q.hi - T) / res := Int.ediv_nonneg (by omega) (Int.le_of_lt hres)
    rw [if_neg (by omega)]
    cases q.cells[((q.hi - T) / res).toNat]? <;> rfl
  · rw [if_pos (by omega), if_neg hle]

/-- on the grid, a period lies within the first `n` periods before `hi` iff it ends after `hi - n * res` -/
theorem span_index_iff {res hi T : Int} {n : Nat} (hres : 0 < res) (hg : (hi - T) % res = 0) (hle : T ≤ hi) :
    ((hi - T) / res).toNat < n ↔ hi - (n : Int) * res < T := by
  have hx := Int.ediv_mul_cancel_of_emod_eq_zero hg
  have hnn : 0 ≤ (hi - T) / res := Int.ediv_nonneg (by omega) (Int.le_of_lt hres)
  have hlt : (hi - T) / res < (n : Int) ↔ (hi - T) / res * res < (n : Int) * res := (Int.mul_lt_mul_right hres).symm
  omega

theorem valueAtTime_some_range (x : Ext) (e : Ex) (hnc : e.isConstant = false) {res hi0 : Int} (hres : 0 < res)
    (s : Sq) (hg : OnGrid res hi0 s) (T : Int) (hT : (hi0 - T) % res = 0)
    (h : (s.valueAtTime x e res T).isSome = true) : sqCovers s res T := by
  cases s with
  | none =>
    unfold Sq.valueAtTime at h
    rw [if_neg (by simp [hnc])] at h
    cases h
  | some q =>
    rw [valueAtTime_on_grid x e hnc hres q hg T hT] at h
    split at h
    · rename_i hle
      have hidx : ((q.hi - T) / res).toNat < q.cells.length := by
        cases hc : q.cells[((q.hi - T) / res).toNat]? with
        | none => rw [hc] at h; cases h
        | some c => exact (List.getElem?_eq_some_iff.mp hc).1
      exact ⟨q, rfl, (span_index_iff hres (grid_trans (grid_symm hg.1) hT) hle).mp hidx, hle⟩
    · cases h

/-- the emission rule shared by `Flatten` and `specOut` -/
def rowOf (vs : List (Option Rat × Bool)) (ts : Int) (key : Key) : Option QRow :=
  if vs.any (fun p => p.1.isSome && !p.2) then some { ts := ts, key := key, vals := vs.map (fun p => p.1.getD 0) }
  else none

theorem rowOf_eq_some_iff (vs : List (Option Rat × Bool)) (ts : Int) (key : Key) (row : QRow) :
    rowOf vs ts key = some row ↔
      (∃ p ∈ vs, p.1.isSome = true ∧ p.2 = false) ∧
        row = { ts := ts, key := key, vals := vs.map (fun p => p.1.getD 0) } := by
  have hany : vs.any (fun p => p.1.isSome && !p.2) = true ↔ ∃ p ∈ vs, p.1.isSome = true ∧ p.2 = false := by
    simp only [List.any_eq_true, Bool.and_eq_true, Bool.not_eq_true']
  unfold rowOf
  split
  · rename_i h
    refine ⟨fun he => ⟨hany.mp h, (Option.some.inj he).symm⟩, ?_⟩
    intro ⟨_, he⟩
    rw [he]
  · rename_i h
    refine ⟨fun he => (by cases he), ?_⟩
    intro ⟨hp, _⟩
    exact absurd (hany.mpr hp) h

theorem nodup_filterMap {α β : Type} (f : α → Option β) {l : List α} (hl : l.Nodup)
    (hinj : ∀ a a' b, f a = some b → f a' = some b → a = a') : (l.filterMap f).Nodup := by
  rw [List.nodup_iff_pairwise_ne] at hl ⊢
  refine List.Pairwise.filterMap _ ?_ hl
  intro a a' hne b hb b' hb' heq
  exact hne (hinj a a' b hb (heq ▸ hb'))

/-- the body of `flattenRow`'s loop at time `ts` -/
def flatAt (x : Ext) (fields : List Field) (res : Int) (r : Row) (ts : Int) : Option QRow :=
  let vs := (fields.zip r.cols).map (fun (f, c) => (Sq.valueAtTime x c f.ex res ts, f.ex.isConstant))
  if vs.any (fun (v, isConst) => v.isSome && !isConst) then
    some { ts := ts, key := r.key, vals := vs.map (fun (v, _) => v.getD 0) }
  else none

theorem flatAt_rowOf (x : Ext) (fields : List Field) (res : Int) (r : Row) (ts : Int) :
    flatAt x fields res r ts =
      rowOf ((fields.zip r.cols).map (fun (fc : Field × Sq) =>
        (Sq.valueAtTime x fc.2 fc.1.ex res ts, fc.1.ex.isConstant))) ts r.key := rfl

theorem flatAt_key_ts (x : Ext) (fields : List Field) (res : Int) (r : Row) (ts : Int) (row : QRow)
    (h : flatAt x fields res r ts = some row) : row.key = r.key ∧ row.ts = ts := by
  obtain ⟨_, rfl⟩ := (rowOf_eq_some_iff _ _ _ _).mp h
  exact ⟨rfl, rfl⟩

def flatNonEmpty (r : Row) : List Seq := (r.cols.filterMap id).filter (fun s => s.cells.length > 0)
def minStep (res : Int) (m : Int) (s : Seq) : Int :=
  if s.hi - (s.cells.length : Int) * res < m then s.hi - (s.cells.length : Int) * res else m
def maxStep (m : Int) (s : Seq) : Int := if s.hi > m then s.hi else m
def flatHi (s0 : Seq) (rest : List Seq) : Int := rest.foldl maxStep s0.hi
def flatLo (res : Int) (s0 : Seq) (rest : List Seq) : Int :=
  rest.foldl (minStep res) (s0.hi - (s0.cells.length : Int) * res)

theorem flattenRow_eq (x : Ext) (fields : List Field) (res : Int) (r : Row) :
    flattenRow x fields res r =
      match flatNonEmpty r with
      | [] => []
      | s0 :: rest =>
        (List.range (if res ≤ 0 then 0 else ((flatHi s0 rest - flatLo res s0 rest) / res).toNat + 1)).filterMap
          (fun (i : Nat) => flatAt x fields res r (flatLo res s0 rest + (Int.ofNat i) * res)) := rfl

theorem flattenRow_step {x : Ext} {fields : List Field} {res : Int} {r : Row} {row : QRow}
    (h : row ∈ flattenRow x fields res r) :
    ∃ s0 rest, flatNonEmpty r = s0 :: rest ∧
      ∃ i : Nat, flatAt x fields res r (flatLo res s0 rest + (Int.ofNat i) * res) = some row := by
  rw [flattenRow_eq] at h
  cases hne : flatNonEmpty r with
  | nil => rw [hne] at h; simp at h
  | cons s0 rest =>
    rw [hne] at h
    obtain ⟨i, _, hi⟩ := List.mem_filterMap.mp h
    exact ⟨s0, rest, rfl, i, hi⟩

/-- the loop bounds enclose the span of every non-empty column -/
theorem flat_bounds (res : Int) (rest : List Seq) : ∀ (s0 : Seq) (s : Seq), s ∈ s0 :: rest →
    flatLo res s0 rest ≤ s.hi - (s.cells.length : Int) * res ∧ s.hi ≤ flatHi s0 rest := by
  unfold flatLo flatHi
  -- for any start values `lo`, `hi` of the two folds
  suffices h : ∀ lo hi : Int, (rest.foldl (minStep res) lo ≤ lo ∧ hi ≤ rest.foldl maxStep hi) ∧
      ∀ s ∈ rest, rest.foldl (minStep res) lo ≤ s.hi - (s.cells.length : Int) * res ∧ s.hi ≤ rest.foldl maxStep hi by
    intro s0 s hs
    rcases List.mem_cons.mp hs with rfl | hs
    · exact (h _ _).1
    · exact (h _ _).2 s hs
  induction rest with
  | nil => intro lo hi; exact ⟨⟨Int.le_refl _, Int.le_refl _⟩, fun _ h => by simp at h⟩
  | cons a rest ih =>
    intro lo hi
    simp only [List.foldl_cons]
    obtain ⟨⟨h1, h2⟩, h3⟩ := ih (minStep res lo a) (maxStep hi a)
    have hmin : minStep res lo a ≤ lo ∧ minStep res lo a ≤ a.hi - (a.cells.length : Int) * res := by
      unfold minStep; split <;> omega
    have hmax : hi ≤ maxStep hi a ∧ a.hi ≤ maxStep hi a := by unfold maxStep; split <;> omega
    refine ⟨⟨by omega, by omega⟩, fun s hs => ?_⟩
    rcases List.mem_cons.mp hs with rfl | hs
    · exact ⟨by omega, by omega⟩
    · exact h3 s hs

theorem mem_flatNonEmpty (r : Row) (s : Seq) :
    s ∈ flatNonEmpty r ↔ (some s) ∈ r.cols ∧ 0 < s.cells.length := by
  unfold flatNonEmpty
  rw [List.mem_filter, List.mem_filterMap]
  constructor
  · intro ⟨⟨c, hc, hid⟩, hl⟩
    simp only [id] at hid
    subst hid
    exact ⟨hc, by simpa using hl⟩
  · intro ⟨hc, hl⟩
    exact ⟨⟨some s, hc, rfl⟩, by simpa using hl⟩

theorem flatLo_grid (res hi0 : Int) (s0 : Seq) (rest : List Seq)
    (hg : ∀ s ∈ s0 :: rest, (hi0 - s.hi) % res = 0) : (hi0 - flatLo res s0 rest) % res = 0 := by
  have key : ∀ s ∈ s0 :: rest, (hi0 - (s.hi - (s.cells.length : Int) * res)) % res = 0 := by
    intro s hs
    have : hi0 - (s.hi - (s.cells.length : Int) * res) = (hi0 - s.hi) + (s.cells.length : Int) * res := by omega
    rw [this, Int.add_mul_emod_self_right]
    exact hg s hs
  -- the running minimum is always the lower bound of one of the columns
  refine List.foldlRecOn rest _ (motive := fun m => (hi0 - m) % res = 0) (key s0 (by simp)) (fun m hm a ha => ?_)
  unfold minStep
  split
  · exact key a (by simp [ha])
  · exact hm

theorem loop_index {res lo hi T : Int} (hres : 0 < res) (hm : (T - lo) % res = 0) (h1 : lo ≤ T) (h2 : T ≤ hi) :
    ((T - lo) / res).toNat < ((hi - lo) / res).toNat + 1 ∧ lo + (Int.ofNat ((T - lo) / res).toNat) * res = T := by
  have hnn : 0 ≤ (T - lo) / res := Int.ediv_nonneg (by omega) (Int.le_of_lt hres)
  have hle : (T - lo) / res ≤ (hi - lo) / res := Int.ediv_le_ediv hres (by omega)
  have hx := Int.ediv_mul_cancel_of_emod_eq_zero hm
  refine ⟨by omega, ?_⟩
  have : (Int.ofNat ((T - lo) / res).toNat) = (T - lo) / res := Int.toNat_of_nonneg hnn
  rw [this, hx]; omega

/-- `flattenRow` without its loop bounds: the rows are the loop body's at the grid times -/
theorem mem_flattenRow (x : Ext) (fields : List Field) (res hi0 : Int) (r : Row) (hres : 0 < res)
    (hgrid : ∀ c ∈ r.cols, OnGrid res hi0 c) (row : QRow) :
    row ∈ flattenRow x fields res r ↔ ∃ T, (hi0 - T) % res = 0 ∧ flatAt x fields res r T = some row := by
  have hgs : ∀ s ∈ flatNonEmpty r, (hi0 - s.hi) % res = 0 := fun s hs =>
    (hgrid (some s) ((mem_flatNonEmpty r s).mp hs).1).1
  constructor
  · intro h
    obtain ⟨s0, rest, hne, i, hi⟩ := flattenRow_step h
    rw [hne] at hgs
    refine ⟨_, ?_, hi⟩
    have hl := flatLo_grid res hi0 s0 rest hgs
    have : hi0 - (flatLo res s0 rest + Int.ofNat i * res) = (hi0 - flatLo res s0 rest) + (-(Int.ofNat i)) * res := by
      rw [Int.neg_mul]; omega
    rw [this, Int.add_mul_emod_self_right]
    exact hl
  · intro ⟨T, hT, hrow⟩
    obtain ⟨⟨p, hp, hsome, hnc⟩, _⟩ := (rowOf_eq_some_iff _ _ _ _).mp hrow
    obtain ⟨fc, hfc, rfl⟩ := List.mem_map.mp hp
    have hc : fc.2 ∈ r.cols := (List.of_mem_zip hfc).2
    obtain ⟨q, hq, hcov⟩ := valueAtTime_some_range x fc.1.ex hnc hres fc.2 (hgrid _ hc) T hT hsome
    have hqm : q ∈ flatNonEmpty r := (mem_flatNonEmpty r q).mpr ⟨hq ▸ hc, covers_len_pos hcov⟩
    obtain ⟨hq1, hq2⟩ := hcov
    rw [flattenRow_eq]
    cases hne : flatNonEmpty r with
    | nil => rw [hne] at hqm; simp at hqm
    | cons s0 rest =>
      rw [hne] at hqm hgs
      simp only
      have hl := flatLo_grid res hi0 s0 rest hgs
      obtain ⟨hlo, hhi⟩ := flat_bounds res rest s0 q hqm
      obtain ⟨i1, i2⟩ := loop_index (hi := flatHi s0 rest) hres (grid_trans (grid_symm hT) hl) (by omega) (by omega)
      rw [if_neg (by omega)]
      refine List.mem_filterMap.mpr ⟨((T - flatLo res s0 rest) / res).toNat, List.mem_range.mpr i1, ?_⟩
      rw [i2]; exact hrow

/-- `Flatten` emits no row twice for one grouped row: the loop body stamps the row with its time -/
theorem flattenRow_nodup (x : Ext) (fields : List Field) (res : Int) (r : Row) (hres : 0 < res) :
    (flattenRow x fields res r).Nodup := by
  rw [flattenRow_eq]
  cases flatNonEmpty r with
  | nil => exact List.nodup_nil
  | cons s0 rest =>
    refine nodup_filterMap _ List.nodup_range ?_
    intro i i' b hb hb'
    have h1 := (flatAt_key_ts x fields res r _ b hb).2
    have h2 := (flatAt_key_ts x fields res r _ b hb').2
    rw [h1] at h2
    have h3 : (Int.ofNat i' - Int.ofNat i) * res = 0 := by rw [Int.sub_mul]; omega
    rcases Int.mul_eq_zero.mp h3 with h4 | h4
    · simp only [Int.ofNat_eq_natCast] at h4; omega
    · omega

/-- grouped rows with distinct keys flatten to distinct rows: a flattened row carries its grouped
    row's key -/
theorem flatMap_flattenRow_nodup (x : Ext) (rows : List Row) (hk : (rows.map (·.key)).Nodup) (fields : List Field) (res : Int)
    (hres : 0 < res) : (rows.flatMap (flattenRow x fields res)).Nodup := by
  rw [List.nodup_iff_pairwise_ne, List.pairwise_flatMap]
  refine ⟨fun g _ => List.nodup_iff_pairwise_ne.mp (flattenRow_nodup x fields res g hres), ?_⟩
  rw [List.nodup_iff_pairwise_ne, List.pairwise_map] at hk
  refine List.Pairwise.imp ?_ hk
  intro g1 g2 hne a ha b hb heq
  obtain ⟨_, _, _, i, hi⟩ := flattenRow_step ha
  obtain ⟨_, _, _, i', hi'⟩ := flattenRow_step hb
  apply hne
  rw [← (flatAt_key_ts x fields res g1 _ a hi).1, ← (flatAt_key_ts x fields res g2 _ b hi').1, heq]

end Zeno
