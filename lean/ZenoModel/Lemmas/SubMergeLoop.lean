/-
The loop of Sequence.SubMerge: each source period is merged into exactly one result period.
The stages of `Sq.subMerge` before the loop, by name.
-/
import ZenoModel.Lemmas.Seq
import ZenoModel.Model.SubMerge
namespace Zeno

/-- what the loop of `Sequence.SubMerge` does to result period `q`, read off the source periods
    one by one: source period `po` is merged in iff `⌊(po + off)/scale⌋ = q` -/
def loopSpec (sm : SM) (otherRes : Int) (p : Pt) (scale off : Int) (q : Nat) :
    Nat → List (List Cell) → List Cell → List Cell
  | _, [], acc => acc
  | po, o :: os, acc =>
      let acc' := if ((po : Int) + off) / scale = (q : Int) then sm.apply acc (o :: os) otherRes p else acc
      loopSpec sm otherRes p scale off q (po + 1) os acc'

theorem loopSpec_skip (sm : SM) (otherRes : Int) (p : Pt) {scale off : Int} (hs : 0 < scale) (q : Nat) :
    ∀ (os : List (List Cell)) (po : Nat) (acc : List Cell), (q : Int) < ((po : Int) + off) / scale →
      loopSpec sm otherRes p scale off q po os acc = acc := by
  intro os
  induction os with
  | nil => intro po acc _; rfl
  | cons o os ih =>
    intro po acc hlt
    simp only [loopSpec]
    have hne : ¬ ((po : Int) + off) / scale = (q : Int) := by omega
    rw [if_neg hne]
    apply ih
    have hmono : ((po : Int) + off) / scale ≤ (((po + 1 : Nat) : Int) + off) / scale :=
      Int.ediv_le_ediv hs (by omega)
    omega

/-- For every result period `q`, the loop leaves in it the state obtained by merging
    in, in source order, exactly the source periods `po` with `⌊(po + off)/scale⌋ = q` — each
    once — and nothing else (no stride; offsets non-negative). -/
theorem subMergeLoop_spec (e : Ex) (sm : SM) (otherRes : Int) (p : Pt) {scale off : Int} (hs : 0 < scale)
    (strideSlice ssp : Int) (hstride : strideSlice ≤ 0) (n : Nat) :
    ∀ (os : List (List Cell)) (po : Nat) (result : List (List Cell)) (q : Nat),
      0 ≤ (po : Int) + off → result.length = n → q < n →
      (subMergeLoop sm otherRes p scale off strideSlice ssp n po os result).getD q e.empty =
        loopSpec sm otherRes p scale off q po os (result.getD q e.empty) := by
  intro os
  induction os with
  | nil => intro po result q _ _ _; rfl
  | cons o os ih =>
    intro po result q hnn hlen hq
    simp only [subMergeLoop, loopSpec]
    have hidx0 : 0 ≤ ((po : Int) + off) / scale := Int.ediv_nonneg hnn (Int.le_of_lt hs)
    by_cases hbreak : ((po : Int) + off) / scale ≥ (n : Int)
    · rw [if_pos hbreak]
      have hne : ¬ ((po : Int) + off) / scale = (q : Int) := by omega
      rw [if_neg hne]
      have hmono : ((po : Int) + off) / scale ≤ (((po + 1 : Nat) : Int) + off) / scale :=
        Int.ediv_le_ediv hs (by omega)
      exact (loopSpec_skip sm otherRes p hs q os (po + 1) _ (by omega)).symm
    · rw [if_neg hbreak]
      simp only [hstride, true_or, if_true]
      rw [if_neg (by omega)]
      have hlen' : (result.modify (((po : Int) + off) / scale).toNat
          (fun d => sm.apply d (o :: os) otherRes p)).length = n := by
        simp [hlen]
      rw [ih (po + 1) _ q (by omega) hlen' hq, getD_modify']
      by_cases hq' : ((po : Int) + off) / scale = (q : Int)
      · have : q = (((po : Int) + off) / scale).toNat := by omega
        rw [if_pos hq', if_pos ⟨this, by omega⟩, ← this]
      · have : ¬ (q = (((po : Int) + off) / scale).toNat ∧ (((po : Int) + off) / scale).toNat < result.length) := by
          intro hh; omega
        rw [if_neg hq', if_neg this]

/-- the loop only modifies single result periods by the sub-merger -/
theorem subMergeLoop_preserves (P : List (List Cell) → Prop) (sm : SM) (otherRes : Int) (p : Pt)
    (scale off ss ssp : Int) (n : Nat) :
    ∀ (os : List (List Cell)) (po : Nat) (result : List (List Cell)),
      (∀ r i o os', o ∈ os → P r → P (r.modify i (fun d => sm.apply d (o :: os') otherRes p))) → P result →
      P (subMergeLoop sm otherRes p scale off ss ssp n po os result) := by
  intro os
  induction os with
  | nil => intro po result _ h; exact h
  | cons o os ih =>
    intro po result hstep h
    simp only [subMergeLoop]
    split
    · exact h
    · apply ih _ _ (fun r i o' os' ho' => hstep r i o' os' (List.mem_cons_of_mem _ ho'))
      split
      · split
        · exact h
        · exact hstep _ _ o os (List.mem_cons_self ..) h
      · exact h

theorem length_subMergeLoop (sm : SM) (otherRes : Int) (p : Pt) (scale off ss ssp : Int) (n : Nat)
    (os : List (List Cell)) (po : Nat) (result : List (List Cell)) :
    (subMergeLoop sm otherRes p scale off ss ssp n po os result).length = result.length :=
  subMergeLoop_preserves (fun r => r.length = result.length) sm otherRes p scale off ss ssp n os po result
    (fun r i o os' _ h => by rw [List.length_modify]; exact h) rfl

/-! The stages of `Sq.subMerge`, which the definition inlines: grow the source for shifted reads
(`growV`), prepend empty periods to the receiver (`prependV`; the code keeps its `until` beside it),
append some (`appendV`).  `V`: on values, as against the heap effects of Lemmas/SeqHeap. -/

def growV (otherEx : Ex) (otherRes shiftBack hi : Int) (o0 : Seq) : Seq :=
  if shiftBack > 0 then
    let shifted0 := o0.hi + shiftBack
    let shifted := if shifted0 > hi then hi else shifted0
    let growBy := (shifted - o0.hi).tdiv otherRes
    if growBy > 0 then
      (⟨shifted, List.replicate growBy.toNat otherEx.empty ++ o0.cells⟩ : Seq)
    else o0
  else o0

def prependV (ex : Ex) (res newUntil : Int) (result : Sq) : Seq × Int :=
  match result with
  | none => (⟨newUntil, [ex.empty]⟩, newUntil)
  | some r =>
    if r.cells.length = 0 then (⟨newUntil, [ex.empty]⟩, newUntil)
    else
      let periodsToPrepend := (newUntil - result.until).tdiv res
      if periodsToPrepend > 0 then
        (⟨newUntil, List.replicate periodsToPrepend.toNat ex.empty ++ r.cells⟩, newUntil)
      else (r, result.until)

def appendV (ex : Ex) (res otherAsOf resultUntil : Int) (r1 : Seq) : Seq :=
  let oldAsOf := roundUntilUp (r1.hi - (r1.cells.length : Int) * res) res resultUntil
  let newAsOf := roundUntilDown otherAsOf res resultUntil
  let periodsToAppend := (oldAsOf - newAsOf).tdiv res
  if periodsToAppend > 0 then ⟨r1.hi, r1.cells ++ List.replicate periodsToAppend.toNat ex.empty⟩ else r1

theorem subMerge_eq (ex otherEx : Ex) (sm : SM) (res otherRes : Int) (s other : Sq) (p : Pt)
    (asOf hi strideSlice : Int) :
    Sq.subMerge ex otherEx sm res otherRes s other p asOf hi strideSlice =
      match other.truncate otherRes (asOf - -ex.shiftOf) hi with
      | none => s
      | some o0 =>
        if o0.cells.length = 0 then s
        else
          let otherAsOf := if other.asOf otherRes < asOf then asOf else other.asOf otherRes
          let o := growV otherEx otherRes (-ex.shiftOf) hi o0
          let pr := prependV ex res (roundUntilUp o.hi res hi) (s.truncate res asOf hi)
          let r2 := appendV ex res otherAsOf pr.2 pr.1
          some ⟨r2.hi, subMergeLoop sm otherRes p (res.tdiv otherRes) ((pr.2 - o.hi).tdiv otherRes) strideSlice
            (strideSlice.tdiv otherRes) r2.cells.length 0 o.cells r2.cells⟩ := by
  rfl

end Zeno
