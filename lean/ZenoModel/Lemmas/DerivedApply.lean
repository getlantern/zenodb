/-
Derived selected expressions: what the sub-mergers of `Expr.SubMergers` do.  Applying the
sub-merger of column `j` to the state `d` of `e` with the column's state `o` merges `o` into exactly
the slots of `e` that resolve to column `j` (gated by the IF conditions of the source row) and leaves
everything else — the other slots and whatever follows `d` — unchanged; running the sub-mergers of
all columns of one source row merges the state assembled from all its columns.
-/
import ZenoModel.Lemmas.DerivedMatch
namespace Zeno

theorem assemble_rel {R : Ex → List Cell → Prop} (subs : List Ex) (p : Pt) (st : Nat → List Cell)
    (col : ∀ n i s, n.matchIdx subs = some i → subs[i]? = some s → n.sameStr s = true → R n (st i))
    (empty : ∀ n, R n n.empty)
    (bin : ∀ op l r a b, R l a → R r b → R (.bin op l r) (a ++ b))
    (ifE : ∀ c w a, R w a → R (.ifE c w) a)
    (bounded : ∀ w lo hi a, R w a → R (.bounded w lo hi) a)
    (unary : ∀ u w a, R w a → R (.unary u w) a) :
    ∀ e : Ex, R e (e.assemble subs p st) := by
  have node : ∀ (n : Ex) (X : List Cell), R n X →
      R n (match n.matchIdx subs with | some i => st i | none => X) := by
    intro n X hX
    cases hm : n.matchIdx subs with
    | none => exact hX
    | some i =>
      obtain ⟨s, hs, hms, _⟩ := matchIdx_some hm
      exact col n i s hm hs hms
  intro e
  induction e with
  | field n | const v | shift w off _ | ptile id v pe n _ _ => exact empty _
  | agg k w _ | avg v w _ _ => exact node _ _ (empty _)
  | bin op l r ihl ihr => exact node _ _ (bin op l r _ _ ihl ihr)
  | ifE c w ih =>
    apply node
    split
    · exact ifE c w _ ih
    · exact empty (.ifE c w)
  | bounded w lo hi ih => exact node _ _ (bounded w lo hi _ ih)
  | unary f w ih => exact node _ _ (unary f w _ ih)

theorem assemble_wf (subs : List Ex) (p : Pt) (st : Nat → List Cell)
    (hst : ∀ i s, subs[i]? = some s → WF s (st i)) : ∀ e : Ex, WF e (e.assemble subs p st) :=
  assemble_rel subs p st (fun n i s _ hs hms => sameStr_wf hms (hst i s hs)) wf_empty
    (fun op l r a b ha hb => by unfold WF at *; simp [Ex.shape, ha, hb])
    (fun _ _ _ h => h) (fun _ _ _ _ h => h) (fun _ _ _ h => h)

theorem assemble_eq_empty (subs : List Ex) (p : Pt) (st : Nat → List Cell)
    (h : ∀ (n : Ex) i s, n.matchIdx subs = some i → subs[i]? = some s → st i = s.empty) :
    ∀ e : Ex, e.assemble subs p st = e.empty :=
  assemble_rel (R := fun e X => X = e.empty) subs p st
    (fun n i s hm hs hms => (h n i s hm hs).trans (sameStr_empty hms).symm) (fun _ => rfl)
    (fun op l r a b ha hb => by rw [ha, hb]; rfl) (fun _ _ _ h => h) (fun _ _ _ _ h => h) (fun _ _ _ h => h)

theorem assemble_congr (subs : List Ex) (p : Pt) (st st' : Nat → List Cell)
    (h : ∀ i, i < subs.length → st i = st' i) : ∀ e : Ex, e.assemble subs p st = e.assemble subs p st' := by
  have node : ∀ (n : Ex) (X X' : List Cell), X = X' →
      (match n.matchIdx subs with | some i => st i | none => X) =
        (match n.matchIdx subs with | some i => st' i | none => X') := by
    intro n X X' hX
    cases hm : n.matchIdx subs with
    | none => exact hX
    | some i => exact h i (matchIdx_lt hm)
  intro e
  induction e with
  | field n | const v | shift w off _ | ptile id v pe n _ _ => rfl
  | agg k w _ | avg v w _ _ => exact node _ _ _ rfl
  | bin op l r ihl ihr => exact node _ _ _ (by rw [ihl, ihr])
  | ifE c w ih => exact node _ _ _ (by rw [ih])
  | bounded w lo hi ih | unary f w ih => exact node _ _ _ ih

theorem singleCol_self (subs : List Ex) (j : Nat) (o : List Cell) : singleCol subs j o j = o := if_pos rfl

theorem singleCol_ne {subs : List Ex} {i j : Nat} {s : Ex} (hij : i ≠ j) (hs : subs[i]? = some s)
    (o : List Cell) : singleCol subs j o i = s.empty := by
  rw [singleCol, if_neg hij, getD_of_getElem? hs]

theorem singleCol_at_match {n : Ex} {subs : List Ex} {i : Nat} (hm : n.matchIdx subs = some i) (j : Nat)
    (o : List Cell) : singleCol subs j o i = if i = j then o else n.empty := by
  obtain ⟨s, hs, hms, _⟩ := matchIdx_some hm
  by_cases hij : i = j
  · rw [if_pos hij, hij, singleCol_self]
  · rw [if_neg hij, singleCol_ne hij hs, sameStr_empty hms]

theorem assemble_single_wf (subs : List Ex) (p : Pt) (j : Nat) (o : List Cell)
    (ho : ∀ cj, subs[j]? = some cj → WF cj o) : ∀ e : Ex, WF e (e.assemble subs p (singleCol subs j o)) :=
  assemble_wf subs p _ fun i s hs => by
    by_cases h : i = j
    · subst h
      rw [singleCol_self]
      exact ho s hs
    · rw [singleCol_ne h hs]
      exact wf_empty s

/-- a column `bytetree.New` drops fills no slot -/
theorem assemble_single_dropped (subs : List Ex) (j : Nat) (hnf : ¬ FirstCol subs j) (p : Pt) (o : List Cell) :
    ∀ e : Ex, e.assemble subs p (singleCol subs j o) = e.empty :=
  assemble_eq_empty subs p _ fun _ _ _ hm hs =>
    singleCol_ne (fun h => hnf (firstCol_of_matchIdx (h ▸ hm))) hs o

theorem applyOpt_combined (a b : Option SM) (k : Nat) (data : List Cell) (other : List (List Cell))
    (otherRes : Int) (p : Pt) :
    applyOpt (combinedSM a k b) data other otherRes p =
      (applyOpt a data other otherRes p).take k ++
        applyOpt b ((applyOpt a data other otherRes p).drop k) other otherRes p := by
  cases a <;> cases b <;> simp [combinedSM, applyOpt, SM.apply]

theorem applyOpt_cond (a : Option SM) (c : Nat) (data : List Cell) (other : List (List Cell))
    (otherRes : Int) (p : Pt) :
    applyOpt (a.map (SM.cond c)) data other otherRes p =
      if p.includes c then applyOpt a data other otherRes p else data := by
  cases a with
  | none => simp [applyOpt]
  | some sm => simp [applyOpt, SM.apply]

theorem getD_subMergers_bin (op : BinOp) (l r : Ex) {subs : List Ex} {j : Nat} (hj : j < subs.length) :
    ((Ex.bin op l r).subMergers subs).getD j none =
      match (Ex.bin op l r).matchIdx subs with
      | some i => if j = i then some (.direct (.bin op l r)) else none
      | none => combinedSM ((l.subMergers subs).getD j none) l.width ((r.subMergers subs).getD j none) := by
  unfold Ex.matchIdx
  simp only [Ex.subMergers]
  cases subs.findIdx? (fun s => (Ex.bin op l r).sameStr s) with
  | none => exact getD_map_of_getElem? (List.getElem?_range hj) _ _
  | some i => exact getD_map_of_getElem? (List.getElem?_range hj) _ _

/-- the semantic reading of the `j`-th closure of `e.SubMergers(subs)` (kept column `j`) -/
def SemApply (e : Ex) (subs : List Ex) (j : Nat) (cj : Ex) (p : Pt) : Prop :=
  ∀ (d o rest : List Cell) (os : List (List Cell)) (otherRes : Int), WF e d → WF cj o →
    applyOpt ((e.subMergers subs).getD j none) (d ++ rest) (o :: os) otherRes p =
      e.mrg d (e.assemble subs p (singleCol subs j o)) ++ rest

theorem semApply_none {subs : List Ex} {j : Nat} {cj : Ex} (p : Pt) {n : Ex} (hv : n.valid = true) (hp : n.noPtile = true)
    (hsm : (n.subMergers subs).getD j none = none)
    (hasm : ∀ st, n.assemble subs p st = n.empty) : SemApply n subs j cj p := by
  intro d o rest os r hd ho
  rw [hsm, hasm, mrg_empty_right hv hp hd]
  rfl

section
variable {subs : List Ex} {j : Nat} {cj : Ex} (hj : subs[j]? = some cj) (hf : FirstCol subs j) (p : Pt)
include hj hf

theorem single_at_node (n : Ex) (o : List Cell) :
    (match n.matchIdx subs with | some i => singleCol subs j o i | none => n.empty) =
      if n.sameStr cj then o else n.empty := by
  cases hm : n.matchIdx subs with
  | none => simp [matchIdx_none hm cj (List.mem_of_getElem? hj)]
  | some i => simp only [singleCol_at_match hm, ← matchIdx_first hj hf, hm, Option.some.injEq]

/-- the shape all self-matching nodes share (aggregates, and composite nodes that resolve to a column) -/
theorem semApply_direct {n : Ex} (hv : n.valid = true) (hp : n.noPtile = true)
    (hsm : (n.subMergers subs).getD j none = if n.sameStr cj then some (.direct n) else none)
    (hasm : ∀ st, n.assemble subs p st = match n.matchIdx subs with | some i => st i | none => n.empty) :
    SemApply n subs j cj p := by
  intro d o rest os r hd ho
  rw [hsm, hasm, single_at_node hj hf]
  by_cases h : n.sameStr cj = true
  · rw [if_pos h, if_pos h]
    exact apply_direct_rest hv hp hd (sameStr_wf h ho) rest os r p
  · rw [if_neg h, if_neg h, mrg_empty_right hv hp hd]
    rfl

theorem semApply_bin (op : BinOp) (l r : Ex) (hv : (Ex.bin op l r).valid = true)
    (hp : (Ex.bin op l r).noPtile = true) (ihl : SemApply l subs j cj p) (ihr : SemApply r subs j cj p) :
    SemApply (.bin op l r) subs j cj p := by
  have hsm := getD_subMergers_bin op l r (List.getElem?_eq_some_iff.mp hj).1
  cases hm : (Ex.bin op l r).matchIdx subs with
  | some i =>
    apply semApply_direct hj hf p hv hp _ (fun st => by simp only [Ex.assemble, hm])
    simp only [hsm, hm, ← matchIdx_first hj hf, Option.some.injEq, eq_comm]
  | none =>
    simp only [Ex.valid, Bool.and_eq_true] at hv
    simp only [Ex.noPtile, Bool.and_eq_true] at hp
    intro d o rest os rr hd ho
    obtain ⟨dl, dr, rfl, hdl, hdr⟩ := wf_split hd
    have hwl := assemble_single_wf subs p j o (by simpa [hj] using ho) l
    simp only [hsm, Ex.assemble, hm]
    rw [applyOpt_combined, List.append_assoc, ihl dl o (dr ++ rest) os rr hdl ho]
    have hlen : (l.mrg dl (l.assemble subs p (singleCol subs j o))).length = l.width :=
      (mrg_wf hv.1 hp.1 hdl hwl).length
    rw [← hlen, List.take_left, List.drop_left, ihr dr o rest os rr hdr ho, mrg_bin hv.1 hp.1 hdl hwl,
      List.append_assoc]

theorem semApply_ifE (c : Nat) (w : Ex) (hv : (Ex.ifE c w).valid = true) (hp : (Ex.ifE c w).noPtile = true)
    (ih : SemApply w subs j cj p) : SemApply (.ifE c w) subs j cj p := by
  cases hm : (Ex.ifE c w).matchIdx subs with
  | some i =>
    apply semApply_direct hj hf p hv hp _ (fun st => by simp only [Ex.assemble, hm])
    simp only [Ex.subMergers, matchIdx_any_true hm, if_true]
    exact getD_map_of_getElem? hj _ _
  | none =>
    intro d o rest os r hd ho
    simp only [Ex.subMergers, matchIdx_any_false hm, Ex.assemble, hm, Bool.false_eq_true, if_false]
    rw [getD_map_optMap, applyOpt_cond]
    split
    · exact ih d o rest os r hd ho
    · exact (congrArg (· ++ rest) (mrg_empty_right (e := w) hv hp hd)).symm

theorem semApply_bounded (w : Ex) (lo hi : Rat) (hv : (Ex.bounded w lo hi).valid = true)
    (hp : (Ex.bounded w lo hi).noPtile = true) (ih : SemApply w subs j cj p) :
    SemApply (.bounded w lo hi) subs j cj p := by
  cases hm : (Ex.bounded w lo hi).matchIdx subs with
  | some i =>
    apply semApply_direct hj hf p hv hp _ (fun st => by simp only [Ex.assemble, hm])
    simp only [Ex.subMergers, matchIdx_any_true hm, if_true]
    exact getD_map_of_getElem? hj _ _
  | none =>
    intro d o rest os r hd ho
    simp only [Ex.subMergers, matchIdx_any_false hm, Ex.assemble, hm, Bool.false_eq_true, if_false]
    exact ih d o rest os r hd ho

theorem semApply_unary (u : Nat) (w : Ex) (hv : (Ex.unary u w).valid = true)
    (hp : (Ex.unary u w).noPtile = true) (ih : SemApply w subs j cj p) :
    SemApply (.unary u w) subs j cj p := by
  cases hm : (Ex.unary u w).matchIdx subs with
  | some i =>
    apply semApply_direct hj hf p hv hp _ (fun st => by simp only [Ex.assemble, hm])
    simp only [Ex.subMergers, matchIdx_any_true hm, if_true]
    exact getD_map_of_getElem? hj _ _
  | none =>
    intro d o rest os r hd ho
    simp only [Ex.subMergers, matchIdx_any_false hm, Ex.assemble, hm, Bool.false_eq_true, if_false]
    exact ih d o rest os r hd ho

theorem semApply_all (e : Ex) (hv : e.valid = true) (hp : e.noPtile = true) (hs : e.shiftFree = true) :
    SemApply e subs j cj p := by
  induction e with
  | field n | const v => exact semApply_none p rfl rfl (getD_map_of_getElem? hj _ _) (fun _ => rfl)
  | agg k w | avg v w => exact semApply_direct hj hf p hv hp (getD_map_of_getElem? hj _ _) (fun _ => rfl)
  | bin op l r ihl ihr =>
    have hv' := Bool.and_eq_true_iff.mp hv
    have hp' := Bool.and_eq_true_iff.mp hp
    have hs' := Bool.and_eq_true_iff.mp hs
    exact semApply_bin hj hf p op l r hv hp (ihl hv'.1 hp'.1 hs'.1) (ihr hv'.2 hp'.2 hs'.2)
  | ifE c w ih => exact semApply_ifE hj hf p c w hv hp (ih hv hp hs)
  | bounded w lo hi ih => exact semApply_bounded hj hf p w lo hi hv hp (ih hv hp hs)
  | unary u w ih => exact semApply_unary hj hf p u w hv hp (ih hv hp hs)
  | shift w off => cases hs
  | ptile id v pe n => cases hp

end

theorem shiftFree_shiftOf : ∀ {e : Ex}, e.shiftFree = true → e.shiftOf = 0 := by
  intro e
  induction e with
  | field n | const v => intro _; rfl
  | shift w off _ => intro h; cases h
  | agg k w ih | ifE c w ih | bounded w lo hi ih | unary f w ih => exact ih
  | avg v w ihv ihw | bin op v w ihv ihw | ptile id v w n ihv ihw =>
    intro h
    simp only [Ex.shiftFree, Bool.and_eq_true] at h
    simp only [Ex.shiftOf, ihv h.1, ihw h.2]
    rfl

/-- `SemApply` for the closure `core.Group` holds (after `bytetree.New`'s de-duplication) -/
theorem sem_apply_lem {e : Ex} (hv : e.valid = true) (hp : e.noPtile = true) (hs : e.shiftFree = true)
    (subs : List Ex) (j : Nat) (cj : Ex) (hj : subs[j]? = some cj) (p : Pt)
    (d o rest : List Cell) (os : List (List Cell)) (otherRes : Int) (hd : WF e d) (ho : WF cj o) :
    applyOpt (colSM e subs j) (d ++ rest) (o :: os) otherRes p =
      e.mrg d (e.assemble subs p (singleCol subs j o)) ++ rest := by
  rw [colSM_eq e subs j cj hj]
  by_cases hf : FirstCol subs j
  · rw [(dedup_test_iff subs j cj hj).mpr hf]
    exact semApply_all hj hf p e hv hp hs d o rest os otherRes hd ho
  · rw [Bool.of_not_eq_false (mt (dedup_test_iff subs j cj hj).mp hf),
      assemble_single_dropped subs j hf p o e, mrg_empty_right hv hp hd]
    rfl

theorem foldl_mrg_only {e : Ex} (hv : e.valid = true) (hp : e.noPtile = true) (i : Nat) (G : Nat → List Cell)
    (hG : WF e (G i)) : ∀ (l : List Nat) (d : List Cell), l.Nodup → WF e d →
      l.foldl (fun a j => e.mrg a (if i = j then G j else e.empty)) d = if i ∈ l then e.mrg d (G i) else d := by
  intro l
  induction l with
  | nil => intro d _ _; rfl
  | cons a l ih =>
    intro d hnd hd
    rw [List.nodup_cons] at hnd
    simp only [List.foldl_cons]
    by_cases hia : i = a
    · subst hia
      rw [if_pos rfl, if_pos (by simp)]
      apply foldl_mrg_empty hv hp _ l _ (mrg_wf hv hp hd hG)
      intro j hj
      exact if_neg fun (h : i = j) => hnd.1 (h ▸ hj)
    · rw [if_neg hia, mrg_empty_right hv hp hd, ih d hnd.2 hd]
      simp [hia]

theorem foldl_mrg_bin {op : BinOp} {l r : Ex} (hvl : l.valid = true) (hpl : l.noPtile = true)
    (gl gr : Nat → List Cell) (hgl : ∀ j, WF l (gl j)) : ∀ (js : List Nat) (dl dr : List Cell), WF l dl →
      js.foldl (fun a j => (Ex.bin op l r).mrg a (gl j ++ gr j)) (dl ++ dr) =
        js.foldl (fun a j => l.mrg a (gl j)) dl ++ js.foldl (fun a j => r.mrg a (gr j)) dr :=
  foldl_append_split (WF l) _ _ _ fun _ _ j hcl => ⟨mrg_bin hvl hpl hcl (hgl j), mrg_wf hvl hpl hcl (hgl j)⟩

section
variable (subs : List Ex) (p : Pt) (st : Nat → List Cell) (hst : ∀ i s, subs[i]? = some s → WF s (st i))
include hst

/-- the column-by-column fold for expression `e` -/
def AsmSum (e : Ex) : Prop :=
  ∀ d, WF e d →
    (List.range subs.length).foldl (fun a j => e.mrg a (e.assemble subs p (singleCol subs j (st j)))) d =
      e.mrg d (e.assemble subs p st)

omit hst in
theorem asmSum_none {e : Ex} (hv : e.valid = true) (hp : e.noPtile = true)
    (h : ∀ st', e.assemble subs p st' = e.empty) : AsmSum subs p st e := by
  intro d hd
  simp only [h]
  rw [mrg_empty_right hv hp hd]
  exact foldl_mrg_empty hv hp _ _ _ hd (fun _ _ => rfl)

theorem asmSum_some {e : Ex} (hv : e.valid = true) (hp : e.noPtile = true) {i : Nat}
    (hm : e.matchIdx subs = some i) (h : ∀ st', e.assemble subs p st' = st' i) : AsmSum subs p st e := by
  intro d hd
  obtain ⟨s, hs, hms, _⟩ := matchIdx_some hm
  simp only [h, singleCol_at_match hm]
  rw [foldl_mrg_only hv hp i st (sameStr_wf hms (hst i s hs)) _ d List.nodup_range hd,
    if_pos (List.mem_range.mpr (matchIdx_lt hm))]

theorem asmSum_bin (op : BinOp) (l r : Ex) (hv : (Ex.bin op l r).valid = true)
    (hp : (Ex.bin op l r).noPtile = true) (ihl : AsmSum subs p st l) (ihr : AsmSum subs p st r) :
    AsmSum subs p st (.bin op l r) := by
  cases hm : (Ex.bin op l r).matchIdx subs with
  | some i => exact asmSum_some subs p st hst hv hp hm (fun st' => by simp only [Ex.assemble, hm])
  | none =>
    simp only [Ex.valid, Bool.and_eq_true] at hv
    simp only [Ex.noPtile, Bool.and_eq_true] at hp
    intro d hd
    obtain ⟨dl, dr, rfl, hdl, hdr⟩ := wf_split hd
    simp only [Ex.assemble, hm]
    rw [foldl_mrg_bin hv.1 hp.1 _ _
        (fun j => assemble_single_wf subs p j _ (hst j) l) _ dl dr hdl,
      ihl dl hdl, ihr dr hdr, mrg_bin hv.1 hp.1 hdl (assemble_wf subs p st hst l)]

theorem asmSum_ifE (c : Nat) (w : Ex) (hv : (Ex.ifE c w).valid = true) (hp : (Ex.ifE c w).noPtile = true)
    (ih : AsmSum subs p st w) : AsmSum subs p st (.ifE c w) := by
  cases hm : (Ex.ifE c w).matchIdx subs with
  | some i => exact asmSum_some subs p st hst hv hp hm (fun st' => by simp only [Ex.assemble, hm])
  | none =>
    by_cases hc : p.includes c = true
    · intro d hd
      simp only [Ex.assemble, hm, hc, if_true]
      exact ih d hd
    · exact asmSum_none subs p st hv hp (fun st' => by simp only [Ex.assemble, hm, hc]; rfl)

theorem asmSum_bounded (w : Ex) (lo hi : Rat) (hv : (Ex.bounded w lo hi).valid = true)
    (hp : (Ex.bounded w lo hi).noPtile = true) (ih : AsmSum subs p st w) :
    AsmSum subs p st (.bounded w lo hi) := by
  cases hm : (Ex.bounded w lo hi).matchIdx subs with
  | some i => exact asmSum_some subs p st hst hv hp hm (fun st' => by simp only [Ex.assemble, hm])
  | none =>
    intro d hd
    simp only [Ex.assemble, hm]
    exact ih d hd

theorem asmSum_unary (u : Nat) (w : Ex) (hv : (Ex.unary u w).valid = true)
    (hp : (Ex.unary u w).noPtile = true) (ih : AsmSum subs p st w) :
    AsmSum subs p st (.unary u w) := by
  cases hm : (Ex.unary u w).matchIdx subs with
  | some i => exact asmSum_some subs p st hst hv hp hm (fun st' => by simp only [Ex.assemble, hm])
  | none =>
    intro d hd
    simp only [Ex.assemble, hm]
    exact ih d hd

theorem asmSum_leaf (n : Ex) (hv : n.valid = true) (hp : n.noPtile = true)
    (h : ∀ st', n.assemble subs p st' = match n.matchIdx subs with | some i => st' i | none => n.empty) :
    AsmSum subs p st n := by
  cases hm : n.matchIdx subs with
  | some i => exact asmSum_some subs p st hst hv hp hm (fun st' => by rw [h, hm])
  | none => exact asmSum_none subs p st hv hp (fun st' => by rw [h, hm])

/-- merging the single-column assemblies of all columns, one after the other, merges the assembly
    of all columns -/
theorem asmSum_all (e : Ex) (hv : e.valid = true) (hp : e.noPtile = true) : AsmSum subs p st e := by
  induction e with
  | field n | const v | shift w off => exact asmSum_none subs p st hv hp (fun _ => rfl)
  | agg k w | avg v w => exact asmSum_leaf subs p st hst _ hv hp (fun _ => rfl)
  | bin op l r ihl ihr =>
    have hv' := Bool.and_eq_true_iff.mp hv
    have hp' := Bool.and_eq_true_iff.mp hp
    exact asmSum_bin subs p st hst op l r hv hp (ihl hv'.1 hp'.1) (ihr hv'.2 hp'.2)
  | ifE c w ih => exact asmSum_ifE subs p st hst c w hv hp (ih hv hp)
  | bounded w lo hi ih => exact asmSum_bounded subs p st hst w lo hi hv hp (ih hv hp)
  | unary u w ih => exact asmSum_unary subs p st hst u w hv hp (ih hv hp)
  | ptile id v pe n => cases hp

end

/-- the closures of all columns of one source row (states `st j`), run column by column on the
    state `d` of `e` -/
def applyRow (e : Ex) (subs : List Ex) (p : Pt) (st : Nat → List Cell) (otherRes : Int) (d : List Cell) : List Cell :=
  (List.range subs.length).foldl (fun a j => applyOpt (colSM e subs j) a [st j] otherRes p) d

theorem sem_applyRow_lem {e : Ex} (hv : e.valid = true) (hp : e.noPtile = true) (hs : e.shiftFree = true)
    (subs : List Ex) (p : Pt) (st : Nat → List Cell) (hst : ∀ i s, subs[i]? = some s → WF s (st i))
    (otherRes : Int) (d : List Cell) (hd : WF e d) :
    applyRow e subs p st otherRes d = e.mrg d (e.assemble subs p st) := by
  rw [← asmSum_all subs p st hst e hv hp d hd]
  apply foldl_congr_on _ _ (WF e) _ d hd
  intro a ha j hj
  have hsj := List.getElem?_eq_getElem (List.mem_range.mp hj)
  have h := sem_apply_lem hv hp hs subs j _ hsj p a (st j) [] [] otherRes ha (hst j _ hsj)
  simp only [List.append_nil] at h
  exact ⟨h, mrg_wf hv hp ha (assemble_single_wf subs p j _ (hst j) e)⟩

end Zeno
