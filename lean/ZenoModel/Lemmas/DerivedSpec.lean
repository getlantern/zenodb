/-
Derived selected expressions, from the leaf-wise reading to the spec: with the store half as a hypothesis (every stored
column state = the column's accumulation of the accepted rows of its (key, period)), the cell of a
derived output field = the derived expression accumulated directly over the spec's bucket, the
source key's IF conditions appended to every point — exactly what `specQuery` does.
-/
import ZenoModel.Lemmas.DerivedLeaf
import ZenoModel.Lemmas.DerivedAcc
namespace Zeno

/-- `groupRows` and `specQuery` look the key's IF conditions up alike -/
theorem rowPt_conds (metas : List KeyMeta) (r : Row) : (rowPt metas r).conds = (specMetaOf metas r.key).conds := rfl

theorem keyPeriodPts_specAdj (metas : List KeyMeta) (A : List AccRow) (r : Row) (t : Int) :
    (keyPeriodPts A (·.pt) r.key t).map (addConds (rowPt metas r).conds) = keyPeriodPts A (specAdj metas) r.key t := by
  unfold keyPeriodPts
  rw [List.map_map]
  apply List.map_congr_left
  intro a ha
  have hk : a.key = r.key := by
    have := (List.mem_filter.mp ha).2
    simp only [Bool.and_eq_true, beq_iff_eq] at this
    exact this.1
  simp only [Function.comp, specAdj, addConds, specMetaOf, rowPt, hk]

theorem rowState_points (x : Ext) {e : Ex} (hv : e.valid = true) (hp : e.noPtile = true) {subs : List Ex}
    (hres : e.resolved subs = true) (metas : List KeyMeta) (A : List AccRow) (r : Row) (otherRes t : Int)
    (hirr : ColsIgnore x subs (rowPt metas r).conds)
    (hfresh : ∀ c ∈ e.openConds subs, ∀ a ∈ A, a.pt.includes c = false)
    (hstore : ∀ j cj, subs[j]? = some cj →
      (r.cols.getD j none).at cj otherRes t = cj.acc x (keyPeriodPts A (·.pt) r.key t)) :
    rowState e subs (rowPt metas r) r.cols otherRes t = e.acc x (keyPeriodPts A (specAdj metas) r.key t) := by
  unfold rowState
  rw [assemble_congr subs _ _ (colAccs x subs (keyPeriodPts A (·.pt) r.key t)) _ e]
  · rw [assemble_acc x rfl hirr e hv hp hres, keyPeriodPts_specAdj]
    intro c hc pt hpt
    unfold keyPeriodPts at hpt
    obtain ⟨a, ha, rfl⟩ := List.mem_map.mp hpt
    exact hfresh c hc a (List.mem_filter.mp ha).1
  · intro i hi
    have hs := List.getElem?_eq_getElem hi
    rw [colAt_of_getElem? hs, colAccs_of_getElem? x hs]
    exact hstore i _ hs

/-- the leaf-wise merge of states that are accumulations = the accumulation of all the points -/
theorem leafwise_acc (x : Ext) {e : Ex} (hv : e.valid = true) (hp : e.noPtile = true) (subs : List Ex)
    (metas : List KeyMeta) (otherRes : Int) (pts : Row → Int → List Pt) (ts : List Int) (l : List Row)
    (pre : List Pt)
    (h : ∀ r ∈ l, ∀ t ∈ ts, rowState e subs (rowPt metas r) r.cols otherRes t = e.acc x (pts r t)) :
    leafwise e subs metas otherRes l ts (e.acc x pre) = e.acc x (pre ++ memberPoints pts l ts) :=
  foldl_acc_append x e _ (fun r => (ts.map (pts r)).flatten) l pre fun r hr pre =>
    foldl_acc_append x e _ (pts r) ts pre fun t ht pre => by rw [h r hr t ht, mrg_acc_append x hv hp]

theorem sem_groupRows_derived_spec_lem (x : Ext) {cfg : TableCfg} {now : Int} {q : Query} {pl : Plan}
    {inFields : List Field} {rows : List Row} {kk i : Nat} {f : Field}
    (H : DerivedCell cfg now q pl inFields rows kk i f) (metas : List KeyMeta)
    (hres : f.ex.resolved (inFields.map (·.ex)) = true)
    (k : Key) (T : Int) (hT : (gUntilOf cfg now pl - T) % gResOf cfg pl = 0)
    (hW : gAsOfOf cfg now pl < T ∧ T ≤ gUntilOf cfg now pl)
    (A : List AccRow) (hper : ∀ a ∈ A, a.period % cfg.res = 0) (hkeys : (rows.map (·.key)).Nodup)
    (hcover : ∀ a ∈ A, gAsOfOf cfg now pl < a.period ∧ a.period ≤ gUntilOf cfg now pl → ∃ r ∈ rows, r.key = a.key)
    (hirr : ∀ r ∈ rows, ColsIgnore x (inFields.map (·.ex)) (rowPt metas r).conds)
    (hfresh : ∀ c ∈ f.ex.openConds (inFields.map (·.ex)), ∀ a ∈ A, a.pt.includes c = false)
    (hstore : ∀ r ∈ rows, ∀ j cj, (inFields.map (·.ex))[j]? = some cj →
      ∀ t, gAsOfOf cfg now pl < t ∧ t ≤ gUntilOf cfg now pl →
        (r.cols.getD j none).at cj cfg.res t = cj.acc x (keyPeriodPts A (·.pt) r.key t)) :
    (groupCell cfg now q pl inFields metas rows k i).at f.ex (gResOf cfg pl) T =
      f.ex.acc x (specBucketPts q A (specAdj metas) (gAsOfOf cfg now pl) (gUntilOf cfg now pl) (gResOf cfg pl) k T) := by
  rw [sem_groupRows_leafwise_lem H metas k T hT, if_pos hW]
  have hacc := leafwise_acc x H.valid H.noPtile (inFields.map (·.ex)) metas cfg.res
    (fun r t => keyPeriodPts A (specAdj metas) r.key t)
    (bucketTimes cfg.res kk (gAsOfOf cfg now pl) (gUntilOf cfg now pl) T) (groupMembers q rows k) [] ?_
  · have h0 : f.ex.acc x [] = f.ex.empty := rfl
    rw [h0, List.nil_append] at hacc
    rw [hacc]
    exact acc_perm x H.valid H.noPtile (memberPoints_perm_spec q A (specAdj metas) H.window rows k T hT hper hkeys hcover)
  · intro r hr t ht
    have hrm : r ∈ rows := (List.mem_filter.mp hr).1
    have htw := ((mem_bucketTimes H.window.otherResPos _ _ _ _ _).mp ht).2
    exact rowState_points x H.valid H.noPtile hres metas A r cfg.res t (hirr r hrm) hfresh
      (fun j cj hj => hstore r hrm j cj hj t htw)

end Zeno
