/-
Plans (C13): the mock source, the two-phase operators sort and group, the subquery filter,
and the induction over plans (`inv_of_wf`).
-/
import ZenoModel.Lemmas.ReportCluster
import ZenoModel.Lemmas.ReportTable

namespace Zeno.Report

theorem mock_polite {σ : Type} (s : Sink σ) (failAt : Option Nat) (sleepAt : Option (Nat × Nat))
    {rows : List Row} {i : Nat} {st : σ} {now : Nat} {st' : σ} {d : Nat}
    (h : mockLoop s failAt sleepAt i st now rows = (st', d, none)) : Polite s st rows st' := by
  fun_induction mockLoop s failAt sleepAt i st now rows generalizing st' d with
  | case1 =>
    cases h
    exact Polite.nil s _
  | case2 => cases h
  | case3 i st now r rs hf st1 d1 rep hr hk st2 d2 e hrec ih =>
    cases h
    exact Polite.cons hr hk (ih hrec)
  | case4 i st now r rs hf st1 d1 rep hr hk =>
    simp only [Prod.mk.injEq] at h
    exact h.1 ▸ Polite.stop rs hr (by simpa using hk) h.2.2

theorem sortEmit_polite {σ : Type} (g : Guard) (s : Sink σ) {rows : List Row} {st : σ} {now : Nat} {st' : σ} {d : Nat}
    (h : sortEmit g s st now rows = (st', d, none)) : Polite s st rows st' := by
  fun_induction sortEmit g s st now rows generalizing st' d with
  | case1 =>
    cases h
    exact Polite.nil s _
  | case2 => cases h
  | case3 => cases h
  | case4 st now r rs ht st1 d1 rep hr he hm =>
    cases h
    have hm' : rep.more = false := by simpa using hm
    exact Polite.stop rs hr (by simp [Reply.ok, hm']) he
  | case5 st now r rs ht st1 d1 rep hr he hm st2 d2 e hrec ih =>
    cases h
    exact Polite.cons hr (by simpa [Reply.ok, he] using hm) (ih hrec)

theorem groupWalk_polite {σ : Type} (g : Guard) (s : Sink σ) {rows : List Row} {st : σ} {now : Nat} {st' : σ} {d : Nat}
    (h : groupWalk g s st now rows = (st', d, none)) : Polite s st rows st' := by
  fun_induction groupWalk g s st now rows generalizing st' d with
  | case1 =>
    cases h
    exact Polite.nil s _
  | case2 st now r rs st1 d1 rep0 hr rep hk st2 d2 e hrec =>
    rename_i ih
    cases h
    -- the deadline did not fire after this row
    have h0 : rep = rep0 := by
      by_cases hc : (rep0.err.isNone && g.timedOut (now + d1)) = true
      · simp [rep, hc, Reply.ok, Reply.fail] at hk
      · simp [rep, hc]
    exact Polite.cons hr (h0 ▸ hk) (ih hrec)
  | case3 st now r rs st1 d1 rep0 hr rep =>
    rename_i hk
    simp only [Prod.mk.injEq] at h
    have h0 : rep = rep0 := by
      by_cases hc : (rep0.err.isNone && g.timedOut (now + d1)) = true
      · simp [rep, hc, Reply.fail] at h
      · simp [rep, hc]
    exact h.1 ▸ Polite.stop rs hr (by simpa [h0] using hk) (h0 ▸ h.2.2)

/-- the deadline having passed, a non-empty walk ends with an error -/
theorem groupWalk_timedOut {σ : Type} (g : Guard) (s : Sink σ) (r : Row) (rs : List Row) (st : σ) (now : Nat)
    (ht : g.timedOut now = true) : (groupWalk g s st now (r :: rs)).2.2 ≠ none := by
  unfold groupWalk
  generalize s.onRow st now r = res
  obtain ⟨st1, d1, rep0⟩ := res
  have ht' : g.timedOut (now + d1) = true := by
    unfold Guard.timedOut at ht ⊢
    cases hd : g.deadline with
    | none => rw [hd] at ht; cases ht
    | some dl =>
      rw [hd] at ht
      simp only [decide_eq_true_eq] at ht ⊢
      exact Nat.lt_of_lt_of_le ht (Nat.le_add_right _ _)
  simp only
  cases hre : rep0.err with
  | none => simp [ht', Reply.fail, Reply.ok]
  | some e' => simp [Reply.ok, hre]

theorem wf_group_cases (gs : GroupSpec) (p : Plan) (h : (Plan.group gs p).wf) :
    (∃ c, p = .cluster c ∧ c.wf) ∨ p.wf := by
  cases p with
  | cluster c => exact Or.inl ⟨c, rfl, h⟩
  | _ => exact Or.inr h

theorem Out_exists : ∀ (p : Plan), p.wf → ∃ l, Out p l
  | .mock rows _ _, _ => ⟨rows, rfl⟩
  | .table t, _ => ⟨t.rows, rfl⟩
  | .cluster c, h => cluster_out_exists c h.2
  | .filter _ p, h => let ⟨l, hl⟩ := Out_exists p h; ⟨_, l, hl, rfl⟩
  | .subqFilter sub _ _ p, h =>
    let ⟨ls, hls⟩ := Out_exists sub h.1
    let ⟨l, hl⟩ := Out_exists p h.2
    ⟨_, ls, l, hls, hl, rfl⟩
  | .group gs p, h => by
    rcases wf_group_cases gs p h with ⟨c, rfl, hw⟩ | hp
    · obtain ⟨l, hl⟩ := cluster_out_exists c hw
      exact ⟨_, l, hl, rfl⟩
    · obtain ⟨l, hl⟩ := Out_exists p hp
      exact ⟨_, l, hl, rfl⟩
  | .flatten _ p, h => let ⟨l, hl⟩ := Out_exists p h; ⟨_, l, hl, rfl⟩
  | .unflatten _ p, h => let ⟨l, hl⟩ := Out_exists p h; ⟨_, l, hl, rfl⟩
  | .sort _ p, h => let ⟨l, hl⟩ := Out_exists p h; ⟨_, l, hl, rfl⟩
  | .offset _ p, h => let ⟨l, hl⟩ := Out_exists p h; ⟨_, l, hl, rfl⟩
  | .limit _ p, h => let ⟨l, hl⟩ := Out_exists p h; ⟨_, l, hl, rfl⟩

theorem wrap_inv {τ : Type} {env : Env} {p q : Plan} (ih : Inv env p) {stp : Step τ} {F : τ → Row → List Row}
    {nx : τ → Row → τ} (ok : StepOK stp (fun _ => True) F nx) (x0 : τ)
    (hiter : ∀ {σ : Type} (s : Sink σ) (st : σ) (now : Nat),
      iterate env q s st now = (iterate env p (wrap stp s) (x0, st) now).mapSt (·.2))
    (hout : ∀ l, Out p l → Out q (specRun F nx x0 l)) : Inv env q := by
  intro σ s st now h
  rw [hiter] at h ⊢
  obtain ⟨l, hl, hp⟩ := ih (wrap stp s) (x0, st) now h
  exact ⟨_, hout l hl, wrap_polite ok s x0 st _ _ l trivial hp⟩

theorem sort_inv (env : Env) (p : Plan) (sf : List Row → List Row) (ih : Inv env p) : Inv env (.sort sf p) := by
  intro σ s st now h
  simp only [iterate] at h ⊢
  generalize hup : iterate env p (collectSink env.guard) [] now = up at h ⊢
  have ihu := ih (collectSink env.guard) [] now
  rw [hup] at ihu
  unfold sortFinish at h ⊢
  by_cases hd : (up.err == some Err.deadline) = true
  · rw [if_pos hd] at h
    have : up.err = some Err.deadline := by simpa using hd
    simp [Res.told, this] at h
  · rw [if_neg hd] at h ⊢
    generalize hem : sortEmit env.guard s st (now + up.took) (sf up.st) = em at h ⊢
    obtain ⟨st1, d1, e⟩ := em
    cases e with
    | some e' => simp [Res.told] at h
    | none =>
      simp only at h ⊢
      have hut : up.told = false := h
      obtain ⟨l, hl, hp⟩ := ihu hut
      have hst : up.st = l := by simpa using collect_of_polite env.guard hp
      refine ⟨sf l, ⟨l, hl, rfl⟩, ?_⟩
      rw [← hst]
      exact sortEmit_polite env.guard s hem

/-- group over any source whose collected rows are complete whenever the source does not
    report a problem (every source through `Inv`; the unflat cluster source directly) -/
theorem group_inv_of (env : Env) (p : Plan) (gs : GroupSpec)
    (hc : ∀ now, (iterate env p (collectSink env.guard) [] now).told = false →
      ∃ l, Out p l ∧ (iterate env p (collectSink env.guard) [] now).st = l) :
    Inv env (.group gs p) := by
  intro σ s st now h
  simp only [iterate] at h ⊢
  have hcu := hc now
  generalize hup : iterate env p (collectSink env.guard) [] now = up at h hcu ⊢
  unfold groupFinish at h ⊢
  by_cases hd : (up.err == some Err.deadline) = true
  · rw [if_pos hd] at h
    have : up.err = some Err.deadline := by simpa using hd
    simp [Res.told, this] at h
  · rw [if_neg hd] at h ⊢
    by_cases hx : (gs.crosstab && !up.st.isEmpty && env.guard.timedOut (now + up.took)) = true
    · rw [if_pos hx] at h
      simp [Res.told] at h
    · rw [if_neg hx] at h ⊢
      by_cases hem : up.st.isEmpty = true
      · rw [if_pos hem] at h ⊢
        have hut : up.told = false := h
        obtain ⟨l, hl, hst⟩ := hcu hut
        exact ⟨[], ⟨l, hl, by rw [← hst, hem]; rfl⟩, Polite.nil s st⟩
      · rw [if_neg hem] at h ⊢
        generalize hw : groupWalk env.guard s st (now + up.took) (gs.gf up.st) = wk at h ⊢
        obtain ⟨st1, d1, we⟩ := wk
        cases we with
        | some e' => simp [Res.told] at h
        | none =>
          simp only at h ⊢
          have hut : up.told = false := h
          obtain ⟨l, hl, hst⟩ := hcu hut
          refine ⟨gs.gf l, ⟨l, hl, by rw [← hst]; simp [hem]⟩, ?_⟩
          rw [← hst]
          exact groupWalk_polite env.guard s hw

theorem group_inv (env : Env) (p : Plan) (gs : GroupSpec) (ih : Inv env p) : Inv env (.group gs p) := by
  apply group_inv_of
  intro now ht
  obtain ⟨l, hl, hp⟩ := ih (collectSink env.guard) [] now ht
  exact ⟨l, hl, by simpa using collect_of_polite env.guard hp⟩

def subqF (keep : List Nat → Row → Bool) (ds : List Nat) : (Bool × List Nat) → Row → List Row :=
  fun _ r => if keep ds r then [r] else []
def subqNx : (Bool × List Nat) → Row → (Bool × List Nat) := fun x _ => x

theorem specRun_subq (keep : List Nat → Row → Bool) (ds : List Nat) : ∀ (rows : List Row) (x : Bool × List Nat),
    specRun (subqF keep ds) subqNx x rows = rows.filter (keep ds)
  | [], _ => rfl
  | r :: rs, x => by
    simp only [specRun, subqNx, specRun_subq keep ds rs x, subqF, List.filter_cons]
    by_cases hk : keep ds r = true <;> simp [hk]

theorem subqStep_ok (fixed : Bool) (g : Guard) (runSub : Nat → List Nat × Nat × Option Err)
    (keep : List Nat → Row → Bool) (ds : List Nat) :
    StepOK (subqStep fixed g runSub keep) (fun x => x = (true, ds)) (subqF keep ds) subqNx where
  pre_ok := by
    intro x now r hx
    subst hx
    by_cases hk : keep ds r = true
    · simp [subqStep, hk, subqF, subqNx]
    · simp only [subqStep, if_true, hk, Bool.false_eq_true, if_false]
      rcases g.proceed_cases (now + 0) with hp | hp
      · refine Or.inr (Or.inl ?_)
        rw [Nat.add_zero] at hp
        simp [hp, subqF, hk, subqNx]
      · exact Or.inl (by rw [hp]; simp [Reply.fail])
  post_ok := fun _ _ _ => ⟨rfl, Or.inl rfl⟩

/-- the first call runs the subquery; when it ends without error the call behaves as if the
    result had been there already -/
theorem subq_first {σ : Type} (g : Guard) (runSub : Nat → List Nat × Nat × Option Err)
    (keep : List Nat → Row → Bool) (s : Sink σ) (d0 : List Nat) (st : σ) (now : Nat) (r : Row)
    (X1 : (Bool × List Nat) × σ) (dA : Nat) (rep : Reply)
    (h : (wrap (subqStep true g runSub keep) s).onRow ((false, d0), st) now r = (X1, dA, rep)) (he : rep.err = none) :
    (runSub now).2.2 = none ∧ ∃ dB, (wrap (subqStep true g runSub keep) s).onRow ((true, (runSub now).1), st) (now + (runSub now).2.1) r = (X1, dB, rep) := by
  generalize hrs : runSub now = rs at h ⊢
  obtain ⟨ds, d1, e⟩ := rs
  cases e with
  | some e' =>
    simp only [wrap, subqStep, Bool.false_eq_true, if_false, hrs, Bool.true_or, if_true, Prod.mk.injEq] at h
    rw [← h.2.2] at he
    cases he
  | none =>
    refine ⟨rfl, ?_⟩
    by_cases hk : keep ds r = true
    · simp only [wrap, subqStep, Bool.false_eq_true, if_false, hrs, hk, if_true] at h ⊢
      generalize feed s st (now + d1) [r] = fd at h ⊢
      obtain ⟨st1, d2, rp⟩ := fd
      simp only [Prod.mk.injEq] at h ⊢
      obtain ⟨h1, _, h3⟩ := h
      exact ⟨0 + d2, by simpa using h1, rfl, h3⟩
    · simp only [wrap, subqStep, Bool.false_eq_true, if_false, hrs, hk, if_true] at h ⊢
      simp only [Prod.mk.injEq] at h ⊢
      obtain ⟨h1, _, h3⟩ := h
      exact ⟨0, h1, rfl, by simpa using h3⟩

/-- the subquery filter over any way of running the subquery that, when it reports no error,
    returns the dimensions of a fault-free output of the subquery -/
theorem subq_run_inv {env : Env} {sub p : Plan} {dimOf : Row → Nat} {keep : List Nat → Row → Bool}
    (hex : ∃ ls, Out sub ls) (ihp : Inv env p) {runSub : Nat → List Nat × Nat × Option Err}
    (hsub : ∀ t, (runSub t).2.2 = none → ∃ ls, Out sub ls ∧ (runSub t).1 = ls.map dimOf)
    {σ : Type} (s : Sink σ) (st : σ) (now : Nat)
    (h : (iterate env p (wrap (subqStep true env.guard runSub keep) s) ((false, []), st) now).told = false) :
    ∃ l, Out (.subqFilter sub dimOf keep p) l ∧
      Polite s st l (iterate env p (wrap (subqStep true env.guard runSub keep) s) ((false, []), st) now).st.2 := by
  obtain ⟨l0, hl0, hp⟩ := ihp _ _ now h
  generalize (iterate env p (wrap (subqStep true env.guard runSub keep) s) ((false, []), st) now).st = X' at hp ⊢
  cases l0 with
  | nil =>
    -- the source delivered nothing: the subquery never ran
    obtain ⟨ls, hls⟩ := hex
    rw [hp.nil_inv]
    exact ⟨[], ⟨ls, [], hls, hl0, rfl⟩, Polite.nil s st⟩
  | cons r rest =>
    obtain ⟨now1, X1, d, rep, hr, he, hok, hno⟩ := hp.uncons
    obtain ⟨hn, dB, hr'⟩ := subq_first env.guard runSub keep s [] st now1 r X1 d rep hr he
    obtain ⟨ls, hls, hds⟩ := hsub _ hn
    -- the same feeding, started after the subquery has run
    have hpol : Polite (wrap (subqStep true env.guard runSub keep) s) ((true, (runSub now1).1), st) (r :: rest) X' := by
      cases hk : rep.ok with
      | true => exact Polite.cons hr' hk (hok hk)
      | false => exact hno hk ▸ Polite.stop rest hr' hk he
    have := wrap_polite (subqStep_ok true env.guard runSub keep _) s _ st X'.1 X'.2 (r :: rest) rfl hpol
    rw [specRun_subq] at this
    exact ⟨_, ⟨ls, r :: rest, hls, hl0, by rw [hds]⟩, this⟩

theorem subq_inv (env : Env) (hsq : env.cfg.subq = true) (hss : env.cfg.subqStats = true) (sub p : Plan)
    (dimOf : Row → Nat) (keep : List Nat → Row → Bool) (hws : sub.wf) (ihs : Inv env sub) (ihp : Inv env p) :
    Inv env (.subqFilter sub dimOf keep p) := by
  intro σ s st now h
  simp only [iterate, hsq, hss, Bool.true_and, Res.told_mapSt] at h ⊢
  refine subq_run_inv (Out_exists sub hws) ihp (fun t ht => ?_) s st now h
  -- no error and statistics not partial: the subquery was not told either
  have htold : (iterate env sub (dimSink dimOf) [] t).told = false := by
    rw [Res.told_eq_false_iff]
    cases he : (iterate env sub (dimSink dimOf) [] t).err with
    | some e => simp [he] at ht
    | none => exact ⟨rfl, fun st hst => by simpa [he, hst] using ht⟩
  obtain ⟨ls, hls, hp⟩ := ihs (dimSink dimOf) [] t htold
  exact ⟨ls, hls, by simpa using dim_of_polite dimOf hp⟩

theorem inv_of_wf (env : Env) (hfix : env.cfg.Fixed) : ∀ (p : Plan), p.wf → Inv env p
  | .mock rows failAt sleepAt, _ => by
    intro s st now h
    refine ⟨rows, rfl, ?_⟩
    simp only [iterate] at h ⊢
    generalize hm : mockLoop s failAt sleepAt 0 st now rows = ml at h ⊢
    obtain ⟨st1, d, e⟩ := ml
    cases ((Res.told_eq_false_iff _).1 h).1
    exact mock_polite s failAt sleepAt hm
  | .table t, _ => table_inv env hfix t
  | .cluster c, hw => fun s st now h => cluster_flat_inv c hw.2 hw.1 s st now h
  | .filter incl p, hw =>
    wrap_inv (q := .filter incl p) (inv_of_wf env hfix p hw) (filterStep_ok env.guard incl) () (fun _ _ _ => rfl)
      (fun l hl => ⟨l, hl, specRun_filter incl l ()⟩)
  | .subqFilter sub dimOf keep p, hw =>
    subq_inv env hfix.2.2.2.1 hfix.2.2.2.2.1 sub p dimOf keep hw.1 (inv_of_wf env hfix sub hw.1) (inv_of_wf env hfix p hw.2)
  | .group gs p, hw => by
    rcases wf_group_cases gs p hw with ⟨c, rfl, hcw⟩ | hp
    · exact group_inv_of env (.cluster c) gs (fun now ht => ⟨_, cluster_collect c hcw env.guard now ht, rfl⟩)
    · exact group_inv env p gs (inv_of_wf env hfix p hp)
  | .flatten fl p, hw =>
    wrap_inv (q := .flatten fl p) (inv_of_wf env hfix p hw) (flattenStep_ok env.guard fl) () (fun _ _ _ => rfl)
      (fun l hl => ⟨l, hl, specRun_const fl unitNx l ()⟩)
  | .unflatten f p, hw =>
    wrap_inv (q := .unflatten f p) (inv_of_wf env hfix p hw) (unflattenStep_ok f) () (fun _ _ _ => rfl)
      (fun l hl => ⟨l, hl, by rw [specRun_const, ← List.map_eq_flatMap]⟩)
  | .sort sf p, hw => sort_inv env p sf (inv_of_wf env hfix p hw)
  | .offset n p, hw =>
    wrap_inv (q := .offset n p) (inv_of_wf env hfix p hw) (offsetStep_ok env.guard n) 0 (fun _ _ _ => rfl)
      (fun l hl => ⟨l, hl, specRun_offset n l 0⟩)
  | .limit n p, hw =>
    wrap_inv (q := .limit n p) (inv_of_wf env hfix p hw) (limitStep_ok n) 0 (fun _ _ _ => rfl)
      (fun l hl => ⟨l, hl, specRun_limit n l 0⟩)

end Zeno.Report
