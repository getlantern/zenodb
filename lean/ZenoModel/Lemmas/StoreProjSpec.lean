/-
Store ↔ column projection over whole scripts: the invariants along a script, the state-free
(clock-only) form of the projected script that makes flush erasure visible, and the raw-point spec
of one (key, period) stated on the store script itself (`tableRowsFor`: no sequences, no files, no
flushes, no store state) with its agreement with the column-level spec (`rowsFor`) of the
projected script.
-/
import ZenoModel.Lemmas.StoreProjFlush
import ZenoModel.Lemmas.ColumnSpec
namespace Zeno

def storeStep (x : Ext) (cfg : TableCfg) (st : Store) : StoreOp → Store
  | .ingest p => (st.ingest x cfg p).1
  | .flush s => st.flush cfg s

theorem runStore_eq (x : Ext) (cfg : TableCfg) (ops : List StoreOp) :
    runStore x cfg ops = ops.foldl (storeStep x cfg) (Store.init cfg) := by
  unfold runStore
  congr 1

theorem script_storeInv (x : Ext) (cfg : TableCfg) (hres : 0 < cfg.res) (ops : List StoreOp) :
    ∀ st : Store, StoreInv cfg st → StorePos ops → StoreInv cfg (ops.foldl (storeStep x cfg) st) := by
  induction ops with
  | nil => intro st sinv _; exact sinv
  | cons op r ih =>
    intro st sinv hpos
    cases op with
    | ingest p => exact ih _ (ingest_storeInv x cfg hres st p hpos.1 sinv) hpos.2
    | flush s => exact ih _ (flush_storeInv cfg st s sinv) hpos

theorem storeInv_run (x : Ext) (cfg : TableCfg) (hres : 0 < cfg.res) (ops : List StoreOp) (hpos : StorePos ops) :
    StoreInv cfg (runStore x cfg ops) := by
  rw [runStore_eq]
  exact script_storeInv x cfg hres ops _ (storeInv_init cfg) hpos

/-- the column of (key, i) follows the projected script, from any state that satisfies the
    invariants -/
theorem script_proj (x : Ext) (cfg : TableCfg) (wf : CfgWF cfg) (key : Key) (i : Nat)
    (hi : i < cfg.fields.length) (ops : List StoreOp) :
    ∀ (st : Store) (c : Col), StoreInv cfg st → ProjInv st key i c → StorePos ops →
      ProjInv (ops.foldl (storeStep x cfg) st) key i
        ((colOpsOf x cfg key st ops).foldl (Col.step x (ccfgOf cfg i)) c) := by
  induction ops with
  | nil => intro st c _ pinv _; exact pinv
  | cons op r ih =>
    intro st c sinv pinv hpos
    cases op with
    | ingest p =>
      rw [colOpsOf_ingest, List.foldl_append]
      exact ih _ _ (ingest_storeInv x cfg wf.res_pos st p hpos.1 sinv) (ingest_proj x cfg wf st p key i hi c sinv pinv) hpos.2
    | flush s =>
      rw [colOpsOf_flush, List.foldl_cons]
      by_cases hne : st.mem.isEmpty = true
      · rw [if_pos hne, storeStep, flush_empty cfg st s hne]
        exact ih _ _ sinv pinv hpos
      · rw [if_neg hne]
        exact ih _ _ (flush_storeInv cfg st s sinv)
          (flush_proj x cfg wf.distinct st s key i hi c sinv pinv (by simpa using hne)) hpos

theorem run_proj (x : Ext) (cfg : TableCfg) (wf : CfgWF cfg) (key : Key) (i : Nat)
    (hi : i < cfg.fields.length) (ops : List StoreOp) (hpos : StorePos ops) :
    ProjInv (runStore x cfg ops) key i
      (Col.run x (ccfgOf cfg i) (colOpsOf x cfg key (Store.init cfg) ops)) := by
  rw [runStore_eq]
  exact script_proj x cfg wf key i hi ops _ _ (storeInv_init cfg) ⟨rfl, rfl, rfl⟩ hpos

/-- after any script, the scan of the store read at (key, field `i`) is the view of the one-column
    model run on the projected script -/
theorem scanCol_run (x : Ext) (cfg : TableCfg) (wf : CfgWF cfg) (ops : List StoreOp) (hpos : StorePos ops)
    (key : Key) (i : Nat) (hi : i < cfg.fields.length) (includeMem : Bool) :
    scanCol cfg (runStore x cfg ops) includeMem key i =
      (Col.run x (ccfgOf cfg i) (colOpsOf x cfg key (Store.init cfg) ops)).view (ccfgOf cfg i) includeMem :=
  view_proj cfg wf.distinct _ includeMem key i hi _ (storeInv_run x cfg wf.res_pos ops hpos)
    (run_proj x cfg wf key i hi ops hpos)

/-- the projected script without its flushes, from the clock alone -/
def colOpsNF (cfg : TableCfg) (key : Key) : Int → List StoreOp → List ColOp
  | _, [] => []
  | now, .flush _ :: r => colOpsNF cfg key now r
  | now, .ingest p :: r => ptOps cfg key now p ++ colOpsNF cfg key (ptNow cfg now p) r

def eraseFlush : List StoreOp → List StoreOp
  | [] => []
  | .flush _ :: r => eraseFlush r
  | .ingest p :: r => .ingest p :: eraseFlush r

theorem noFlush_acceptedOps (ts : Int) (p : RawPoint) (rows : List (List (String × Rat))) :
    noFlush (acceptedOps ts p rows) = acceptedOps ts p rows := by
  unfold acceptedOps
  split
  · rfl
  · generalize rows = l
    induction l with
    | nil => rfl
    | cons v r ih => simp [noFlush, ih]

theorem noFlush_ptOps (cfg : TableCfg) (key : Key) (now : Int) (p : RawPoint) :
    noFlush (ptOps cfg key now p) = ptOps cfg key now p := by
  unfold ptOps
  split
  · rfl
  · split
    · rfl
    · exact noFlush_acceptedOps _ _ _

theorem noFlush_colOpsOf (x : Ext) (cfg : TableCfg) (key : Key) (ops : List StoreOp) :
    ∀ st : Store, noFlush (colOpsOf x cfg key st ops) = colOpsNF cfg key st.now ops := by
  induction ops with
  | nil => intro st; rfl
  | cons op r ih =>
    intro st
    cases op with
    | ingest p =>
      rw [colOpsOf_ingest, noFlush_append, ih, noFlush_ptOps, ingest_now]
      rfl
    | flush s =>
      rw [colOpsOf_flush]
      split
      · exact ih st
      · rw [noFlush, ih, flush_now]
        rfl

theorem colOpsNF_eraseFlush (cfg : TableCfg) (key : Key) (ops : List StoreOp) :
    ∀ now, colOpsNF cfg key now (eraseFlush ops) = colOpsNF cfg key now ops := by
  induction ops with
  | nil => intro now; rfl
  | cons op r ih =>
    intro now
    cases op <;> simp only [eraseFlush, colOpsNF, ih]

theorem opsPos_acceptedOps (ts : Int) (hts : 0 < ts) (p : RawPoint) (rows : List (List (String × Rat))) :
    OpsPos (acceptedOps ts p rows) := by
  unfold acceptedOps
  split
  · exact ⟨hts, trivial⟩
  · generalize rows = l
    induction l with
    | nil => trivial
    | cons v r ih => exact ⟨hts, ih⟩

theorem opsPos_ptOps (cfg : TableCfg) (key : Key) (now : Int) (p : RawPoint) (hts : 0 < p.ts) :
    OpsPos (ptOps cfg key now p) := by
  unfold ptOps
  split
  · trivial
  · split
    · trivial
    · exact opsPos_acceptedOps _ hts _ _

theorem opsPos_colOpsOf (x : Ext) (cfg : TableCfg) (key : Key) (ops : List StoreOp) :
    ∀ st : Store, StorePos ops → OpsPos (colOpsOf x cfg key st ops) := by
  induction ops with
  | nil => intro st _; trivial
  | cons op r ih =>
    intro st hpos
    cases op with
    | ingest p =>
      rw [colOpsOf_ingest]
      exact opsPos_append (opsPos_ptOps cfg key st.now p hpos.1) (ih _ hpos.2)
    | flush s =>
      rw [colOpsOf_flush]
      split
      · exact ih _ hpos
      · exact ih _ hpos

/-- the rows (in arrival order, each once) that period `T` of group `key` accumulates —
    the rows of stored points of that group whose timestamp rounds up to `T` -/
def tableRowsFor (cfg : TableCfg) (key : Key) (T : Int) : Int → List StoreOp → List Pt
  | _, [] => []
  | now, .flush _ :: r => tableRowsFor cfg key T now r
  | now, .ingest p :: r =>
      (if ptStored cfg now p && (reslice cfg p.dims == key) && decide (roundUp p.ts cfg.res = T)
        then (pointRows p).map (mkPt p) else [])
      ++ tableRowsFor cfg key T (ptNow cfg now p) r

/-- the clock after a script: maximum timestamp of the points that passed the age check and WHERE -/
def nowAfter (cfg : TableCfg) : Int → List StoreOp → Int
  | now, [] => now
  | now, .flush _ :: r => nowAfter cfg now r
  | now, .ingest p :: r => nowAfter cfg (ptNow cfg now p) r

theorem foldl_storeStep_now (x : Ext) (cfg : TableCfg) (ops : List StoreOp) :
    ∀ st : Store, (ops.foldl (storeStep x cfg) st).now = nowAfter cfg st.now ops := by
  induction ops with
  | nil => intro st; rfl
  | cons op r ih =>
    intro st
    cases op with
    | ingest p => rw [List.foldl_cons, ih, storeStep, ingest_now, nowAfter]
    | flush s => rw [List.foldl_cons, ih, storeStep, flush_now, nowAfter]

theorem runStore_now (x : Ext) (cfg : TableCfg) (ops : List StoreOp) :
    (runStore x cfg ops).now = nowAfter cfg 0 ops := by
  rw [runStore_eq, foldl_storeStep_now]
  rfl

theorem nowAfter_eraseFlush (cfg : TableCfg) (ops : List StoreOp) :
    ∀ now, nowAfter cfg now (eraseFlush ops) = nowAfter cfg now ops := by
  induction ops with
  | nil => intro now; rfl
  | cons op r ih =>
    intro now
    cases op <;> simp only [eraseFlush, nowAfter, ih]

theorem tableRowsFor_eraseFlush (cfg : TableCfg) (key : Key) (T : Int) (ops : List StoreOp) :
    ∀ now, tableRowsFor cfg key T now (eraseFlush ops) = tableRowsFor cfg key T now ops := by
  induction ops with
  | nil => intro now; rfl
  | cons op r ih =>
    intro now
    cases op <;> simp only [eraseFlush, tableRowsFor, ih]

theorem rowsFor_acceptedOps (ccfg : ColCfg) (hret : 0 ≤ ccfg.retention) (T : Int) (ts : Int) (p : RawPoint)
    (rest : List ColOp) (rows : List (List (String × Rat))) :
    ∀ now : Int, ¬ ts < now - ccfg.retention →
      rowsFor ccfg T now (acceptedOps ts p rows ++ rest) =
        (if roundUp ts ccfg.res = T then rows.map (mkPt p) else []) ++ rowsFor ccfg T (max now ts) rest := by
  unfold acceptedOps
  induction rows with
  | nil => intro now hacc; simp [rowsFor, accepted, hacc]
  | cons v r ih =>
    intro now hacc
    simp only [List.isEmpty_cons, Bool.false_eq_true, if_false, List.map_cons, List.cons_append, rowsFor,
      accepted, hacc, decide_false, Bool.not_false, if_true]
    cases r with
    | nil => split <;> simp
    | cons v' r' =>
      rw [if_neg (by simp)] at ih
      rw [ih _ (accepted_at_max hret hacc), Int.max_assoc, Int.max_self]
      split <;> simp

theorem rowsFor_ptOps (cfg : TableCfg) (hret : 0 ≤ cfg.retention) (i : Nat) (key : Key) (T : Int) (now : Int)
    (p : RawPoint) (rest : List ColOp) :
    rowsFor (ccfgOf cfg i) T now (ptOps cfg key now p ++ rest) =
      (if ptStored cfg now p && (reslice cfg p.dims == key) && decide (roundUp p.ts cfg.res = T)
        then (pointRows p).map (mkPt p) else [])
      ++ rowsFor (ccfgOf cfg i) T (ptNow cfg now p) rest := by
  unfold ptOps ptNow ptStored
  by_cases hold : p.ts < now - cfg.retention
  · simp [hold, rowsFor]
  · cases hw : p.whereOk
    · simp [hold, rowsFor]
    · rw [if_neg hold, if_neg (by simp), rowsFor_acceptedOps (ccfgOf cfg i) hret T p.ts p rest _ now hold]
      cases hpan : p.panics <;> by_cases hk : reslice cfg p.dims = key <;> simp [hold, hk, ccfgOf]

/-- the column-level spec of the projected script is the table-level spec of the store script -/
theorem rowsFor_colOpsOf (x : Ext) (cfg : TableCfg) (hret : 0 ≤ cfg.retention) (key : Key) (i : Nat)
    (T : Int) (ops : List StoreOp) :
    ∀ st : Store, rowsFor (ccfgOf cfg i) T st.now (colOpsOf x cfg key st ops) =
      tableRowsFor cfg key T st.now ops := by
  induction ops with
  | nil => intro st; rfl
  | cons op r ih =>
    intro st
    cases op with
    | ingest p => rw [colOpsOf_ingest, rowsFor_ptOps cfg hret, tableRowsFor, ← ingest_now x cfg st p, ih]
    | flush s =>
      rw [colOpsOf_flush, tableRowsFor]
      split
      · exact ih st
      · rw [rowsFor, ← flush_now cfg st s, ih]

/-- the column model run on the projected script of (key, field `i`) keeps `ColInv`; `hv`, `hp` speak of
    the field's expression, which is the column's (`ccfgOf_eq`) -/
theorem colInv_colOpsOf (x : Ext) (cfg : TableCfg) (wf : CfgWF cfg) (ops : List StoreOp) (hpos : StorePos ops)
    (key : Key) (i : Nat) (hi : i < cfg.fields.length)
    (hv : (cfg.fields[i]).ex.valid = true) (hp : (cfg.fields[i]).ex.noPtile = true) :
    ColInv x (ccfgOf cfg i) (Col.run x (ccfgOf cfg i) (colOpsOf x cfg key (Store.init cfg) ops))
      (ColSpec.run x (ccfgOf cfg i) (colOpsOf x cfg key (Store.init cfg) ops)) := by
  rw [ccfgOf_eq cfg i hi]
  exact colInv_run x _ hv hp wf.res_pos _ (opsPos_colOpsOf x cfg key ops (Store.init cfg) hpos)

/-- the scan column of a store reached by a script is a well-formed sequence on the table's grid
    (it is the view of the column model, whose file and memstore series satisfy `ColInv`) -/
theorem scanCol_ok (x : Ext) (cfg : TableCfg) (wf : CfgWF cfg) (ops : List StoreOp) (hpos : StorePos ops)
    (key : Key) (i : Nat) (hi : i < cfg.fields.length)
    (hv : (cfg.fields[i]).ex.valid = true) (hp : (cfg.fields[i]).ex.noPtile = true) :
    SqOk cfg.res (scanCol cfg (runStore x cfg ops) true key i) ∧
      SqWF (cfg.fields[i]).ex (scanCol cfg (runStore x cfg ops) true key i) := by
  have inv := colInv_colOpsOf x cfg wf ops hpos key i hi hv hp
  rw [scanCol_run x cfg wf ops hpos key i hi]
  rw [ccfgOf_eq cfg i hi] at inv ⊢
  exact merge_inv hv hp wf.res_pos _ _ inv.fileOk inv.memOk inv.fileWF inv.memWF _

/-- the raw-point spec at table level: on a period that has not expired the memstore-inclusive scan
    holds the accumulation of `tableRowsFor` -/
theorem scanCol_at_eq_acc (x : Ext) (cfg : TableCfg) (wf : CfgWF cfg) (ops : List StoreOp)
    (hpos : StorePos ops) (key : Key) (i : Nat) (hi : i < cfg.fields.length)
    (hv : (cfg.fields[i]).ex.valid = true) (hp : (cfg.fields[i]).ex.noPtile = true) (T : Int)
    (hgrid : T % cfg.res = 0) (hlive : T > (runStore x cfg ops).now - cfg.retention) (hT0 : 0 < T) :
    (scanCol cfg (runStore x cfg ops) true key i).at (cfg.fields[i]).ex cfg.res T =
      (cfg.fields[i]).ex.acc x (tableRowsFor cfg key T 0 ops) := by
  have inv := colInv_colOpsOf x cfg wf ops hpos key i hi hv hp
  have hnow := (run_proj x cfg wf key i hi ops hpos).now
  have hrows : rowsFor (ccfgOf cfg i) T 0 (colOpsOf x cfg key (Store.init cfg) ops) = tableRowsFor cfg key T 0 ops :=
    rowsFor_colOpsOf x cfg wf.ret_nonneg key i T ops (Store.init cfg)
  rw [scanCol_run x cfg wf ops hpos key i hi, ← hrows]
  rw [ccfgOf_eq cfg i hi] at inv hnow ⊢
  rw [view_eq_spec x _ hv hp wf.res_pos inv T ⟨hgrid, by rw [hnow]; exact hlive⟩ hT0, spec_cells_eq_acc]

end Zeno
