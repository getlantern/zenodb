/-
queryCluster (C13).  The receive loop keeps an invariant (`CInv`) that ties the statistics
(`successful`, `finished`, `missing`) to what the callback has been fed.
-/
import ZenoModel.Lemmas.Report

namespace Zeno.Report

theorem mem_or_length_lt (n : Nat) (l : List Nat) (hn : l.Nodup) (hb : ∀ x, x ∈ l → x < n) (p : Nat) (hp : p < n) :
    p ∈ l ∨ l.length < n := by
  by_cases hm : p ∈ l
  · exact Or.inl hm
  · have hb' : ∀ x ∈ p :: l, x < n := List.forall_mem_cons.mpr ⟨hp, hb⟩
    have := (List.nodup_cons.mpr ⟨hm, hn⟩).length_le_of_subset (l₂ := List.range n)
      (fun x hx => List.mem_range.mpr (hb' x hx))
    rw [List.length_range] at this
    exact Or.inr this

def partKey (p : Nat) : Row → Bool := fun r => r.part == p

theorem Part.script_prefix (pt : Part) (hnr : ∀ k, pt.outcome ≠ .retryAfter k) : ∃ k, pt.script = pt.rows.take k := by
  unfold Part.script
  cases ho : pt.outcome with
  | ok => exact ⟨pt.rows.length, by simp⟩
  | noHandler => exact ⟨0, by simp⟩
  | retryAfter k => exact absurd ho (hnr k)
  | failAfter k | silentAfter k | eofAfter k | endErrorAfter k => exact ⟨k, rfl⟩

theorem Part.script_of_final_ok (pt : Part) (hnr : ∀ k, pt.outcome ≠ .retryAfter k) (h : pt.finalErr = some none) :
    pt.script = pt.rows := by
  unfold Part.finalErr at h
  unfold Part.script
  cases ho : pt.outcome with
  | ok => rfl
  | retryAfter k => exact absurd ho (hnr k)
  | noHandler | failAfter k | silentAfter k | eofAfter k | endErrorAfter k => simp [ho] at h

theorem nextMsg_cases (parts : List Part) (c : CState) (p : Nat) (early : Bool) :
    match nextMsg parts c p early with
    | .nothing => True
    | .row r => ∃ pt, parts[p]? = some pt ∧ pt.script[c.recvd.count p]? = some r
    | .final e => ∃ pt, parts[p]? = some pt ∧ c.finished.contains p = false ∧
        ((c.stopped = true ∧ e = none) ∨ (pt.script.length ≤ c.recvd.count p ∧ pt.finalErr = some e)) := by
  fun_cases nextMsg parts c p early
  case case1 | case2 | case6 => trivial
  case case3 pt hp hnf r hs he =>
    exact ⟨pt, hp, by simpa using hnf, Or.inl ⟨by simp_all, rfl⟩⟩
  case case4 pt hp hnf r hs he => exact ⟨pt, hp, hs⟩
  case case5 pt hp hnf hs e hfe =>
    exact ⟨pt, hp, by simpa using hnf, Or.inr ⟨List.getElem?_eq_none_iff.mp hs, hfe⟩⟩

/-- The invariant of the leader's receive loop over a callback started in `st0`: `acc` are the
    rows handed to it so far, `okFin` the partitions counted successful.
    * the callback (`fe`, `fedOk`, `fedStop`): no error was recorded; it was fed `acc`, and its
      last answer was a clean stop exactly when `c.stopped`;
    * per partition (`accLt`, `proj`): the rows of partition `p` in `acc` are a prefix of its
      script, as long as the number of its messages received unless the leader has stopped;
    * finished partitions (`finNodup`, `finLt`, `cnt`): each once, and with `pending` all of them;
    * successful partitions (`okSub`, `okNodup`, `okLen`, `succ`, `okProp`): `okFin` lists
      `c.successful` finished partitions, each ended cleanly after its whole script or after the
      stop; every other finished partition is listed as missing (`missFin`). -/
structure CInv {σ : Type} (parts : List Part) (s : Sink σ) (st0 : σ) (c : CState) (st : σ)
    (acc : List Row) (okFin : List Nat) : Prop where
  fe : c.finalErr = none
  fedOk : c.stopped = false → Fed s st0 acc st Reply.proceed
  fedStop : c.stopped = true → ∃ rep, Fed s st0 acc st rep ∧ rep.err = none ∧ rep.more = false
  accLt : ∀ r, r ∈ acc → r.part < parts.length
  proj : ∀ (p : Nat) (pt : Part), parts[p]? = some pt →
    ∃ j, j ≤ c.recvd.count p ∧ acc.filter (partKey p) = pt.script.take j ∧ (c.stopped = false → j = c.recvd.count p)
  finNodup : c.finished.Nodup
  finLt : ∀ p, p ∈ c.finished → p < parts.length
  cnt : c.finished.length + c.pending = parts.length
  okSub : ∀ p, p ∈ okFin → p ∈ c.finished
  okNodup : okFin.Nodup
  okLen : okFin.length ≤ c.finished.length
  succ : c.successful = okFin.length
  okProp : ∀ (p : Nat) (pt : Part), p ∈ okFin → parts[p]? = some pt →
    c.stopped = true ∨ (pt.script.length ≤ c.recvd.count p ∧ pt.finalErr = some none)
  /-- a finished partition is counted successful or listed as missing -/
  missFin : ∀ p, p ∈ c.finished → p ∈ okFin ∨ c.missing.contains p = true

def PartsWf (parts : List Part) : Prop :=
  ∀ (p : Nat) (pt : Part), parts[p]? = some pt → (∀ r : Row, r ∈ pt.rows → r.part = p) ∧ ∀ k, pt.outcome ≠ PartOutcome.retryAfter k

theorem Cluster.wf_parts (c : Cluster) (hw : c.wf) : PartsWf c.parts := hw

theorem script_part {parts : List Part} (hw : PartsWf parts) {p : Nat} {pt : Part} (hp : parts[p]? = some pt)
    {r : Row} {k : Nat} (h : pt.script[k]? = some r) : r.part = p := by
  obtain ⟨hr, hnr⟩ := hw p pt hp
  obtain ⟨m, hm⟩ := pt.script_prefix hnr
  have : r ∈ pt.script := List.mem_of_getElem? h
  rw [hm] at this
  exact hr r (List.mem_of_mem_take this)

theorem CInv.init {σ : Type} (parts : List Part) (s : Sink σ) (st0 : σ) :
    CInv parts s st0 { pending := parts.length } st0 [] [] where
  fe := rfl
  fedOk := fun _ => Fed.nil _
  fedStop := nofun
  accLt := nofun
  proj := fun p pt _ => ⟨0, Nat.zero_le _, by simp, fun _ => by simp⟩
  finNodup := List.nodup_nil
  finLt := nofun
  cnt := by simp
  okSub := nofun
  okNodup := List.nodup_nil
  okLen := Nat.le_refl _
  succ := rfl
  okProp := nofun
  missFin := nofun

/-- `fail` never records the error (D5); it lists the partition as missing -/
theorem fail_eq (c : CState) (p : Nat) (e : Option Err) (hfe : c.finalErr = none) :
    ∃ ms, c.fail p e = { c with missing := ms } ∧ ms.contains p = true ∧
      ∀ q, c.missing.contains q = true → ms.contains q = true := by
  refine ⟨if c.missing.contains p then c.missing else c.missing ++ [p], ?_, ?_, fun q hq => ?_⟩
  · cases c
    simp_all [CState.fail]
  · split <;> simp_all
  · split
    · exact hq
    · simp_all

section
variable {σ : Type} {parts : List Part} {s : Sink σ} {st0 : σ} {c : CState} {st : σ} {acc : List Row} {okFin : List Nat}

theorem CInv.skip (h : CInv parts s st0 c st acc okFin) (p : Nat) (hs : c.stopped = true) :
    CInv parts s st0 { c with recvd := p :: c.recvd } st acc okFin :=
  { h with
    fedOk := fun hn => by simp [hs] at hn
    proj := fun q pt hq => by
      obtain ⟨j, hj, hf, _⟩ := h.proj q pt hq
      refine ⟨j, ?_, hf, fun hn => by simp [hs] at hn⟩
      simp only [List.count_cons]
      omega
    okProp := fun q pt hq hpt => Or.inl hs }

theorem CInv.final_ok (h : CInv parts s st0 c st acc okFin) (p : Nat) (pt : Part)
    (hp : parts[p]? = some pt) (hnf : p ∉ c.finished) (hpend : c.pending ≠ 0)
    (hwhy : c.stopped = true ∨ (pt.script.length ≤ c.recvd.count p ∧ pt.finalErr = some none)) :
    CInv parts s st0 { c with successful := c.successful + 1, pending := c.pending - 1, finished := p :: c.finished }
      st acc (p :: okFin) :=
  { h with
    finNodup := List.nodup_cons.mpr ⟨hnf, h.finNodup⟩
    finLt := List.forall_mem_cons.mpr ⟨(List.getElem?_eq_some_iff.mp hp).1, h.finLt⟩
    cnt := by
      have := h.cnt
      simp only [List.length_cons]
      omega
    okSub := fun q hq => by
      rcases List.mem_cons.mp hq with rfl | h1
      · exact List.mem_cons_self
      · exact List.mem_cons_of_mem _ (h.okSub q h1)
    okNodup := List.nodup_cons.mpr ⟨fun hm => hnf (h.okSub p hm), h.okNodup⟩
    okLen := Nat.succ_le_succ h.okLen
    succ := congrArg (· + 1) h.succ
    okProp := fun q qt hq hqt => by
      rcases List.mem_cons.mp hq with rfl | h1
      · rw [hp] at hqt
        cases hqt
        exact hwhy
      · exact h.okProp q qt h1 hqt
    missFin := fun q hq => by
      rcases List.mem_cons.mp hq with rfl | h1
      · exact Or.inl List.mem_cons_self
      · exact (h.missFin q h1).imp (List.mem_cons_of_mem _) id }

theorem CInv.final_err (h : CInv parts s st0 c st acc okFin) (p : Nat) (hplt : p < parts.length)
    (hnf : p ∉ c.finished) (hpend : c.pending ≠ 0) (ms : List Nat) (hmp : ms.contains p = true)
    (hms : ∀ q, c.missing.contains q = true → ms.contains q = true) :
    CInv parts s st0 { c with missing := ms, pending := c.pending - 1, finished := p :: c.finished } st acc okFin :=
  { h with
    finNodup := List.nodup_cons.mpr ⟨hnf, h.finNodup⟩
    finLt := List.forall_mem_cons.mpr ⟨hplt, h.finLt⟩
    cnt := by
      have := h.cnt
      simp only [List.length_cons]
      omega
    okSub := fun q hq => List.mem_cons_of_mem _ (h.okSub q hq)
    okLen := Nat.le_succ_of_le h.okLen
    missFin := fun q hq => by
      rcases List.mem_cons.mp hq with rfl | h1
      · exact Or.inr hmp
      · exact (h.missFin q h1).imp id (hms q) }

theorem CInv.ok_or_partial (h : CInv parts s st0 c st acc okFin) {p : Nat} (hp : p < parts.length) :
    p ∈ okFin ∨ c.successful < parts.length := by
  rw [h.succ]
  exact mem_or_length_lt _ okFin h.okNodup (fun x hx => h.finLt x (h.okSub x hx)) p hp

theorem CInv.ok_complete (hw : PartsWf parts) (h : CInv parts s st0 c st acc okFin) (hs : c.stopped = false)
    {p : Nat} {pt : Part} (hok : p ∈ okFin) (hp : parts[p]? = some pt) :
    acc.filter (partKey p) = pt.rows ∧ pt.finalErr = some none := by
  obtain ⟨j, _, hf, hj⟩ := h.proj p pt hp
  rcases h.okProp p pt hok hp with h1 | ⟨hl, hfe⟩
  · rw [hs] at h1
    cases h1
  · rw [hf, hj hs, List.take_of_length_le hl]
    exact ⟨pt.script_of_final_ok (hw p pt hp).2 hfe, hfe⟩

end

theorem CInv.deliver {σ : Type} {parts : List Part} (hw : PartsWf parts) {s : Sink σ} {st0 : σ} {c : CState} {st : σ}
    {acc : List Row} {okFin : List Nat} (h : CInv parts s st0 c st acc okFin) (p : Nat) (pt : Part) (r : Row)
    (hp : parts[p]? = some pt) (hr : pt.script[c.recvd.count p]? = some r) (hs : c.stopped = false)
    {now d1 : Nat} {st1 : σ} {rep : Reply} (hcall : s.onRow st now r = (st1, d1, rep)) (he : rep.err = none) :
    CInv parts s st0 { c with recvd := p :: c.recvd, stopped := !rep.more } st1 (acc ++ [r]) okFin := by
  have hpart : r.part = p := script_part hw hp hr
  have hplt : p < parts.length := (List.getElem?_eq_some_iff.mp hp).1
  exact
  { h with
    fedOk := fun hn => by
      have hm : rep.more = true := by simpa using hn
      exact Fed.append (h.fedOk hs) rfl (Fed.cons hcall (by simp [Reply.ok, hm, he]) (Fed.nil _))
    fedStop := fun hn => by
      have hm : rep.more = false := by simpa using hn
      exact ⟨rep, Fed.append (h.fedOk hs) rfl (Fed.last hcall (by simp [Reply.ok, hm])), he, hm⟩
    accLt := fun x hx => by
      rcases List.mem_append.mp hx with h1 | h1
      · exact h.accLt x h1
      · rw [List.mem_singleton.mp h1, hpart]
        exact hplt
    proj := fun q qt hq => by
      obtain ⟨j, hj, hf, hjj⟩ := h.proj q qt hq
      have hje := hjj hs
      by_cases hqp : q = p
      · subst hqp
        rw [hp] at hq
        cases hq
        refine ⟨c.recvd.count q + 1, by simp, ?_, fun _ => by simp⟩
        rw [List.filter_append, hf, hje, List.take_add_one, hr]
        simp [partKey, hpart]
      · refine ⟨j, ?_, ?_, fun _ => ?_⟩
        · simp only [List.count_cons]
          omega
        · rw [List.filter_append, hf]
          simp [partKey, hpart, Ne.symm hqp]
        · simp [hje, Ne.symm hqp]
    okProp := fun q qt hq hqt => by
      rcases h.okProp q qt hq hqt with h1 | ⟨h1, h2⟩
      · rw [hs] at h1
        cases h1
      · refine Or.inr ⟨?_, h2⟩
        simp only [List.count_cons]
        omega }

theorem foldl_fail_eq (l : List Nat) (c : CState) (hfe : c.finalErr = none) :
    ∃ ms, l.foldl (fun c p => c.fail p (some Err.deadline)) c = { c with missing := ms } ∧
      (∀ q, c.missing.contains q = true → ms.contains q = true) ∧ ∀ q, q ∈ l → ms.contains q = true := by
  induction l generalizing c with
  | nil => exact ⟨c.missing, rfl, fun _ hq => hq, nofun⟩
  | cons a t ih =>
    obtain ⟨m1, e1, h1, h2⟩ := fail_eq c a (some Err.deadline) hfe
    obtain ⟨ms, e2, h3, h4⟩ := ih { c with missing := m1 } hfe
    rw [List.foldl_cons, e1, e2]
    refine ⟨ms, rfl, fun q hq => h3 q (h2 q hq), fun q hq => ?_⟩
    rcases List.mem_cons.mp hq with rfl | hq
    · exact h3 q h1
    · exact h4 q hq

/-- the leader's timer: every partition still pending is listed as missing -/
theorem CInv.timeout {σ : Type} {parts : List Part} {s : Sink σ} {st0 : σ} {c : CState} {st : σ} {acc : List Row}
    {okFin : List Nat} (h : CInv parts s st0 c st acc okFin) :
    CInv parts s st0 (timeoutFail parts.length c) st acc okFin ∧
    ∀ p, p < parts.length → p ∈ okFin ∨ (timeoutFail parts.length c).missing.contains p = true := by
  unfold timeoutFail
  obtain ⟨ms, heq, h1, h2⟩ := foldl_fail_eq ((List.range parts.length).filter (fun p => !c.finished.contains p)) c h.fe
  rw [heq]
  refine ⟨{ h with missFin := fun p hp => (h.missFin p hp).imp id (h1 p) }, fun p hp => ?_⟩
  by_cases hf : p ∈ c.finished
  · exact (h.missFin p hf).imp id (h1 p)
  · exact Or.inr (h2 p (by simp [hp, hf]))

theorem cluster_step {σ : Type} {parts : List Part} (hw : PartsWf parts) {s : Sink σ} {st0 : σ}
    {c : CState} {st : σ} (now : Nat) {acc : List Row} {okFin : List Nat} (ev : CEvent)
    (hinv : CInv parts s st0 c st acc okFin) (hp : c.pending ≠ 0) :
    match clusterStep parts false s c st now ev with
    | .halt st1 _ e c1 => e ≠ none ∨ (st1 = st ∧ c1 = timeoutFail parts.length c)
    | .next c1 st1 _ => ∃ acc' okFin', CInv parts s st0 c1 st1 acc' okFin' := by
  cases ev with
  | timeout => exact Or.inr ⟨rfl, rfl⟩
  | tick dd => exact ⟨acc, okFin, hinv⟩
  | msg p early =>
    simp only [clusterStep]
    have hm := nextMsg_cases parts c p early
    generalize nextMsg parts c p early = msg at hm
    cases msg with
    | nothing => exact ⟨acc, okFin, hinv⟩
    | final e0 =>
      obtain ⟨pt, hpt, hnf, hwhy⟩ := hm
      have hnf' : p ∉ c.finished := by simpa using hnf
      cases e0 with
      | none =>
        refine ⟨acc, p :: okFin, hinv.final_ok p pt hpt hnf' hp (hwhy.imp (·.1) id)⟩
      | some e =>
        obtain ⟨ms, heq, hmp, hms⟩ := fail_eq c p (some e) hinv.fe
        simp only [Option.isSome_some, if_true, heq]
        exact ⟨acc, okFin, hinv.final_err p (List.getElem?_eq_some_iff.mp hpt).1 hnf' hp ms hmp hms⟩
    | row r =>
      obtain ⟨pt, hpt, hscr⟩ := hm
      simp only
      unfold rowStep
      by_cases hskip : (c.stopped || c.finalErr.isSome) = true
      · rw [if_pos hskip]
        have hs : c.stopped = true := by
          rw [hinv.fe] at hskip
          simpa using hskip
        exact ⟨acc, okFin, hinv.skip p hs⟩
      · rw [if_neg hskip]
        have hs : c.stopped = false := by
          rw [hinv.fe] at hskip
          simpa using hskip
        generalize hcall : s.onRow st now r = res
        obtain ⟨st1, d1, rep⟩ := res
        simp only [Bool.false_eq_true, if_false]
        cases hre : rep.err with
        | some e1 => simp
        | none =>
          have hd := hinv.deliver hw p pt r hpt hscr hs hcall hre
          cases hmore : rep.more with
          | true =>
            rw [hmore, Bool.not_true, ← hs] at hd
            exact ⟨_, okFin, hd⟩
          | false =>
            rw [hmore] at hd
            exact ⟨_, okFin, hd⟩

theorem cluster_run {σ : Type} {parts : List Part} (hw : PartsWf parts) {s : Sink σ} {st0 : σ}
    (evs : List CEvent) (c : CState) (st : σ) (now : Nat) {acc : List Row} {okFin : List Nat}
    (hinv : CInv parts s st0 c st acc okFin) (he : (clusterLoop parts false s c st now evs).2.2.1 = none) :
    ∃ acc' okFin', CInv parts s st0 (clusterLoop parts false s c st now evs).2.2.2 (clusterLoop parts false s c st now evs).1 acc' okFin' ∧
      ∀ p, p < parts.length → p ∈ okFin' ∨ (clusterLoop parts false s c st now evs).2.2.2.missing.contains p = true := by
  -- nothing pending: every partition is finished
  have hdone : ∀ {c : CState} {st : σ} {acc : List Row} {okFin : List Nat}, CInv parts s st0 c st acc okFin →
      (c.pending == 0) = true → ∀ p, p < parts.length → p ∈ okFin ∨ c.missing.contains p = true := by
    intro c st acc okFin hinv hp p hlt
    have hcnt := hinv.cnt
    have hp0 : c.pending = 0 := by simpa using hp
    exact hinv.missFin p ((mem_or_length_lt _ _ hinv.finNodup hinv.finLt p hlt).resolve_right (by omega))
  fun_induction clusterLoop parts false s c st now evs generalizing acc okFin with
  | case1 c st _ hp => exact ⟨acc, okFin, hinv, hdone hinv hp⟩
  | case2 c st _ hp => exact ⟨acc, okFin, hinv.timeout⟩
  | case3 c st now ev rest hp => exact ⟨acc, okFin, hinv, hdone hinv hp⟩
  | case4 c st now ev rest hp st1 d e c1 hstp =>
    have hstep := cluster_step hw now ev hinv (by simpa using hp)
    rw [hstp] at hstep
    rcases hstep with h | ⟨rfl, rfl⟩
    · exact absurd he h
    · exact ⟨acc, okFin, hinv.timeout⟩
  | case5 c st now ev rest hp c1 st1 d hstp _ =>
    rename_i ih
    have hstep := cluster_step hw now ev hinv (by simpa using hp)
    rw [hstp] at hstep
    obtain ⟨acc', okFin', hinv'⟩ := hstep
    exact ih hinv' he

theorem Cluster.Out_iff (c : Cluster) (l : List Row) :
    c.Out l ↔ (∀ r, r ∈ l → r.part < c.parts.length) ∧
      ∀ (p : Nat) (pt : Part), c.parts[p]? = some pt → l.filter (partKey p) = pt.rows := by
  unfold Cluster.Out
  constructor
  · rintro ⟨h1, h2⟩
    refine ⟨h1, fun p pt hp => ?_⟩
    have := h2 p (List.getElem?_eq_some_iff.mp hp).1
    rwa [List.getD_eq_getElem?_getD, hp] at this
  · rintro ⟨h1, h2⟩
    refine ⟨h1, fun p hlt => ?_⟩
    rw [List.getD_eq_getElem?_getD, List.getElem?_eq_getElem hlt]
    exact h2 p _ (List.getElem?_eq_getElem hlt)

theorem Cluster.extend (c : Cluster) (hw : PartsWf c.parts) (acc : List Row) (hlt : ∀ r, r ∈ acc → r.part < c.parts.length)
    (hj : ∀ (p : Nat) (pt : Part), c.parts[p]? = some pt → ∃ j, acc.filter (partKey p) = pt.rows.take j) :
    ∃ rest, c.Out (acc ++ rest) := by
  -- partition by partition: `rest` completes the partitions below `k`
  have upto : ∀ k, k ≤ c.parts.length → ∃ rest, (∀ r, r ∈ rest → r.part < k) ∧
      ∀ (p : Nat) (pt : Part), p < k → c.parts[p]? = some pt → (acc ++ rest).filter (partKey p) = pt.rows := by
    intro k
    induction k with
    | zero => exact fun _ => ⟨[], by simp, fun p _ hp => absurd hp (Nat.not_lt_zero _)⟩
    | succ k ih =>
      intro hk
      obtain ⟨rest, hr, hp⟩ := ih (by omega)
      have hget : c.parts[k]? = some c.parts[k] := List.getElem?_eq_getElem (by omega)
      obtain ⟨j, hjk⟩ := hj k _ hget
      -- the missing rows of partition k carry `part = k`
      have hdrop : ∀ r, r ∈ c.parts[k].rows.drop j → r.part = k := fun r h => (hw k _ hget).1 r (List.mem_of_mem_drop h)
      refine ⟨rest ++ c.parts[k].rows.drop j, ?_, ?_⟩
      · intro r hm
        rcases List.mem_append.mp hm with h | h
        · have := hr r h; omega
        · have := hdrop r h; omega
      · intro p pt hpk hpt
        rw [← List.append_assoc, List.filter_append]
        by_cases hpe : p = k
        · subst hpe
          rw [hget] at hpt
          cases hpt
          have h1 : rest.filter (partKey p) = [] :=
            List.filter_eq_nil_iff.mpr (fun r h => by have := hr r h; simp [partKey]; omega)
          have h2 : (c.parts[p].rows.drop j).filter (partKey p) = c.parts[p].rows.drop j :=
            List.filter_eq_self.mpr (fun r h => by simp [partKey, hdrop r h])
          rw [List.filter_append, hjk, h1, h2]
          simp
        · have h2 : (c.parts[k].rows.drop j).filter (partKey p) = [] :=
            List.filter_eq_nil_iff.mpr (fun r h => by simp [partKey, hdrop r h]; omega)
          rw [h2, List.append_nil]
          exact hp p pt (by omega) hpt
  obtain ⟨rest, hr, hp⟩ := upto _ (Nat.le_refl _)
  exact ⟨rest, (c.Out_iff _).mpr ⟨fun r hm => (List.mem_append.mp hm).elim (hlt r) (hr r),
    fun p pt hpt => hp p pt (List.getElem?_eq_some_iff.mp hpt).1 hpt⟩⟩

theorem cluster_final {σ : Type} (c0 : Cluster) (hw : PartsWf c0.parts) {s : Sink σ} {st0 : σ} {c : CState} {st : σ}
    {acc : List Row} {okFin : List Nat} (hinv : CInv c0.parts s st0 c st acc okFin)
    (hsucc : c0.parts.length ≤ c.successful) : ∃ l, c0.Out l ∧ Polite s st0 l st := by
  cases hs : c.stopped with
  | false =>
    refine ⟨acc, (c0.Out_iff acc).mpr ⟨hinv.accLt, fun p pt hp => ?_⟩, Polite.of_fed_complete (hinv.fedOk hs) rfl⟩
    have hok := (hinv.ok_or_partial (List.getElem?_eq_some_iff.mp hp).1).resolve_right (by omega)
    exact (hinv.ok_complete hw hs hok hp).1
  | true =>
    obtain ⟨rep, hf, he, hm⟩ := hinv.fedStop hs
    have hj : ∀ (p : Nat) (pt : Part), c0.parts[p]? = some pt → ∃ j, acc.filter (partKey p) = pt.rows.take j := by
      intro p pt hp
      obtain ⟨j, _, hf', _⟩ := hinv.proj p pt hp
      obtain ⟨k, hk⟩ := pt.script_prefix (hw p pt hp).2
      exact ⟨min j k, by rw [hf', hk, List.take_take]⟩
    obtain ⟨rest, hout⟩ := c0.extend hw acc hinv.accLt hj
    exact ⟨acc ++ rest, hout, acc.length, rep, by simpa using hf, he, fun h => by rw [hm] at h; cases h⟩

theorem cluster_out_exists (c : Cluster) (hw : c.wf) : ∃ l, c.Out l :=
  let ⟨rest, h⟩ := c.extend (c.wf_parts hw) [] nofun (fun _ _ _ => ⟨0, by simp⟩)
  ⟨[] ++ rest, h⟩

theorem cluster_flat_inv {σ : Type} (c : Cluster) (hw : c.wf) (hf : c.unflat = false) (s : Sink σ) (st : σ) (now : Nat)
    (h : (clusterIterate c s st now).told = false) :
    ∃ l, c.Out l ∧ Polite s st l (clusterIterate c s st now).st := by
  unfold clusterIterate at h ⊢
  rw [hf] at h ⊢
  obtain ⟨he, hs⟩ := (Res.told_eq_false_iff _).1 h
  obtain ⟨acc, okFin, hinv, _⟩ := cluster_run (c.wf_parts hw) c.events _ st now (CInv.init c.parts s st) he
  refine cluster_final c (c.wf_parts hw) hinv ?_
  exact Nat.le_of_not_lt (of_decide_eq_false (hs _ rfl))

/-- A cluster query that returns no error and was not stopped by the caller: every partition
    delivered all its rows and ended with a clean final result, or it is listed in
    `MissingPartitions` with `NumSuccessfulPartitions < NumPartitions`. -/
theorem cluster_complete_or_missing (env : Env) (c : Cluster) (hw : c.wf) (hf : c.unflat = false) (f : UFault)
    (size : Row → Nat) (now : Nat)
    (he : (embedded env (.cluster c) f size now).err = none)
    (hns : (embedded env (.cluster c) f size now).stopped = false)
    (p : Nat) (pt : Part) (hp : c.parts[p]? = some pt) :
    ((embedded env (.cluster c) f size now).rows.filter (partKey p) = pt.rows ∧ pt.finalErr = some none) ∨
      ∃ st, (embedded env (.cluster c) f size now).stats = some st ∧ p ∈ st.missing ∧ st.successful < st.total := by
  have hplt : p < c.parts.length := (List.getElem?_eq_some_iff.mp hp).1
  simp only [embedded, iterate, clusterIterate, hf] at he hns ⊢
  obtain ⟨acc, okFin, hinv, hall⟩ := cluster_run (c.wf_parts hw) c.events _ _ now (CInv.init c.parts (userSink f size) _) he
  generalize clusterLoop c.parts false (userSink f size) { pending := c.parts.length } {} now c.events = L at he hns hinv hall ⊢
  obtain ⟨st', d, e, c'⟩ := L
  simp only at he hns hinv hall ⊢
  -- the caller never asked to stop, so the leader never stopped
  have hstop : c'.stopped = false := by
    cases hs : c'.stopped with
    | false => rfl
    | true =>
      obtain ⟨rep, hfed, hre, hm⟩ := hinv.fedStop hs
      rw [(user_fed f size hfed).2 hm hre] at hns
      cases hns
  by_cases hok : p ∈ okFin
  · left
    have hrows : st'.rows = acc := by simpa [Reply.ok, Reply.proceed] using (user_fed f size (hinv.fedOk hstop)).1
    rw [hrows]
    exact hinv.ok_complete (c.wf_parts hw) hstop hok hp
  · right
    refine ⟨c'.stats c.parts.length, rfl, ?_, (hinv.ok_or_partial hplt).resolve_left hok⟩
    simp only [CState.stats, List.mem_filter, List.mem_range]
    exact ⟨hplt, (hall p hplt).resolve_left hok⟩

/-! ## unflat rows into group's collector: the dropped error loses no row -/

def collectAll : Sink (List Row) where
  onRow := fun acc _ r => (acc ++ [r], 0, Reply.proceed)

theorem step_collect_eq (parts : List Part) (g : Guard) (c : CState) (st : List Row) (now : Nat) (ev : CEvent) :
    clusterStep parts true (collectSink g) c st now ev = clusterStep parts false collectAll c st now ev := by
  cases ev with
  | timeout => rfl
  | tick d => rfl
  | msg p early =>
    simp only [clusterStep]
    cases nextMsg parts c p early with
    | nothing => rfl
    | final e => rfl
    | row r =>
      simp only [rowStep, collectSink, collectAll]
      by_cases hskip : (c.stopped || c.finalErr.isSome) = true
      · simp [hskip]
      · simp only [hskip, Bool.false_eq_true, if_false, if_true]
        rcases g.proceed_cases now with hp | hp <;> simp [hp, Reply.proceed, Reply.fail]

theorem loop_collect_eq (parts : List Part) (g : Guard) :
    ∀ (evs : List CEvent) (c : CState) (st : List Row) (now : Nat),
      clusterLoop parts true (collectSink g) c st now evs = clusterLoop parts false collectAll c st now evs
  | [], c, st, now => by simp [clusterLoop]
  | ev :: rest, c, st, now => by
    unfold clusterLoop
    rw [step_collect_eq]
    cases clusterStep parts false collectAll c st now ev with
    | halt _ _ _ _ => rfl
    | next c1 st1 d => simp only [loop_collect_eq parts g rest c1 st1 (now + d)]

theorem cluster_collect (c : Cluster) (hw : c.wf) (g : Guard) (now : Nat)
    (h : (clusterIterate c (collectSink g) [] now).told = false) :
    c.Out (clusterIterate c (collectSink g) [] now).st := by
  cases hu : c.unflat with
  | false =>
    obtain ⟨l, hl, hp⟩ := cluster_flat_inv c hw hu (collectSink g) [] now h
    rw [collect_of_polite g hp]
    simpa using hl
  | true =>
    -- the same run as that of the flat loop over a collector that never fails
    have e : clusterIterate c (collectSink g) [] now = clusterIterate { c with unflat := false } collectAll [] now := by
      simp only [clusterIterate, hu, loop_collect_eq]
    rw [e] at h ⊢
    obtain ⟨l, (hl : c.Out l), hp⟩ := cluster_flat_inv { c with unflat := false } hw rfl collectAll [] now h
    rw [collector_of_polite (f := id) (fun _ _ _ => ⟨rfl, fun hk => by simp [collectAll, Reply.ok, Reply.proceed] at hk⟩) hp]
    simpa using hl

end Zeno.Report
