/-
Refinement of the one-column store model to its raw-point spec: invariant `ColInv`,
its preservation by every operation (`colInv_step`) and the lift to whole scripts.  The step is
proved for `ColInvB`, the invariant with the live window relative to a bound on the clock; `ColInv`
is the case where the bound is the clock.
-/
import ZenoModel.Lemmas.SeqMerge
import ZenoModel.Lemmas.SeqUpdate
import ZenoModel.Model.Column
namespace Zeno

/-- `T` is a period end on the absolute grid that has not expired at clock `now` -/
def Live (cfg : ColCfg) (now T : Int) : Prop := T % cfg.res = 0 ∧ T > now - cfg.retention

/-- the invariant tying a column's state to its spec -/
structure ColInv (x : Ext) (cfg : ColCfg) (c : Col) (s : ColSpec) : Prop where
  now_eq : c.now = s.now
  now_nonneg : 0 ≤ c.now
  fileOk : SqOk cfg.res c.file
  memOk : SqOk cfg.res c.mem
  fileWF : SqWF cfg.e c.file
  memWF : SqWF cfg.e c.mem
  specWF : ∀ T, WF cfg.e (s.cells T)
  agree : ∀ T, Live cfg c.now T → 0 < T →
    cfg.e.mrg (c.file.at cfg.e cfg.res T) (c.mem.at cfg.e cfg.res T) = s.cells T

/-- every timestamp in the script is after time 0 (Go's zero `time.Time`) -/
def OpsPos : List ColOp → Prop
  | [] => True
  | .ingest ts _ :: r => 0 < ts ∧ OpsPos r
  | .tick ts :: r => 0 < ts ∧ OpsPos r
  | .late _ :: r => OpsPos r
  | .flush _ :: r => OpsPos r

/-- `ColInv` with the periods claimed taken relative to a bound `b` on the clock instead of the clock
    itself: what survives when the clock is put back (Lemmas/AlterColumn.lean) -/
structure ColInvB (x : Ext) (cfg : ColCfg) (c : Col) (s : ColSpec) (b : Int) : Prop where
  now_eq : c.now = s.now
  now_nonneg : 0 ≤ c.now
  now_le : c.now ≤ b
  fileOk : SqOk cfg.res c.file
  memOk : SqOk cfg.res c.mem
  fileWF : SqWF cfg.e c.file
  memWF : SqWF cfg.e c.mem
  specWF : ∀ T, WF cfg.e (s.cells T)
  agree : ∀ T, Live cfg b T → 0 < T →
    cfg.e.mrg (c.file.at cfg.e cfg.res T) (c.mem.at cfg.e cfg.res T) = s.cells T

theorem colInvB_iff {x : Ext} {cfg : ColCfg} {c : Col} {s : ColSpec} :
    ColInvB x cfg c s c.now ↔ ColInv x cfg c s :=
  ⟨fun ⟨h1, h2, _, h3, h4, h5, h6, h7, h8⟩ => ⟨h1, h2, h3, h4, h5, h6, h7, h8⟩,
    fun ⟨h1, h2, h3, h4, h5, h6, h7, h8⟩ => ⟨h1, h2, Int.le_refl _, h3, h4, h5, h6, h7, h8⟩⟩

theorem colInv_init (x : Ext) (cfg : ColCfg) (hv : cfg.e.valid = true) (hp : cfg.e.noPtile = true) :
    ColInv x cfg {} (ColSpec.init cfg) := by
  refine ⟨rfl, Int.le_refl 0, trivial, trivial, trivial, trivial, fun _ => wf_empty _, ?_⟩
  intro T _ _
  simp [Sq.at, ColSpec.init, mrg_empty_empty hv hp]

/-- one operation; the bound rises to the new clock when that is later -/
theorem colInvB_step (x : Ext) (cfg : ColCfg) (hv : cfg.e.valid = true) (hp : cfg.e.noPtile = true)
    (hres : 0 < cfg.res) (c : Col) (s : ColSpec) (b : Int) (inv : ColInvB x cfg c s b) (op : ColOp)
    (hop : OpsPos [op]) :
    ColInvB x cfg (c.step x cfg op) (s.step x cfg op) (max b (s.step x cfg op).now) := by
  obtain ⟨hnow, hnn, hle, fOk, mOk, fWF, mWF, sWF, agree⟩ := inv
  have same : ColInvB x cfg c s (max b s.now) :=
    ⟨hnow, hnn, by omega, fOk, mOk, fWF, mWF, sWF, fun T hl => agree T ⟨hl.1, by have := hl.2; omega⟩⟩
  cases op with
  | late ts => exact same
  | tick ts =>
    simp only [Col.step, ColSpec.step, ← hnow]
    split
    · exact ⟨rfl, by dsimp only; omega, Int.le_max_right .., fOk, mOk, fWF, mWF, sWF,
        fun T hl => agree T ⟨hl.1, by have := hl.2; dsimp only at this; omega⟩⟩
    · exact same
  | ingest ts pt =>
    have hts : 0 < ts := hop.1
    simp only [Col.step, ColSpec.step, ← hnow]
    split
    · obtain ⟨mOk', mWF'⟩ := updateValue0_inv x hv hp hres c.mem mOk mWF ts hts pt
      refine ⟨rfl, by dsimp only; omega, Int.le_max_right .., fOk, mOk', fWF, mWF', ?_, ?_⟩
      · intro T
        simp only
        split
        · exact upd_wf x hv hp (sWF T) pt
        · exact sWF T
      · intro T hl hT0
        simp only
        rw [sem_updateValue0 x cfg.e hres c.mem mOk ts hts pt T]
        have hl' : Live cfg b T := ⟨hl.1, by have := hl.2; dsimp only at this; omega⟩
        split
        · rw [← agree T hl' hT0]
          exact (upd_mrg x pt hv hp (sqAt_wf fWF _ _) (sqAt_wf mWF _ _)).symm
        · exact agree T hl' hT0
    · exact same
  | flush raw =>
    simp only [Col.step, ColSpec.step]
    split
    · exact same
    · obtain ⟨gOk, gWF⟩ := merge_inv hv hp hres c.file c.mem fOk mOk fWF mWF (c.now - cfg.retention)
      obtain ⟨tOk, tWF⟩ := truncate_inv (e := cfg.e) hres _ gOk gWF (c.now - cfg.retention)
      refine ⟨hnow, hnn, by dsimp only; omega, tOk, trivial, tWF, trivial, sWF, ?_⟩
      intro T hl hT0
      have hgt : T > c.now - cfg.retention := by have := hl.2; omega
      simp only
      rw [at_none, mrg_empty_right hv hp (sqAt_wf tWF _ _)]
      rw [truncate_live cfg.e hres _ _ T hgt]
      rw [sem_merge_live hv hp hres c.file c.mem fOk mOk fWF mWF _ T hl.1 hgt]
      exact agree T ⟨hl.1, by have := hl.2; omega⟩ hT0

theorem Col.now_le_step (x : Ext) (cfg : ColCfg) (c : Col) (op : ColOp) : c.now ≤ (c.step x cfg op).now := by
  cases op <;> simp only [Col.step]
  case late => exact Int.le_refl _
  all_goals split
  all_goals first | exact Int.le_refl _ | exact Int.le_max_left ..

theorem colInv_step (x : Ext) (cfg : ColCfg) (hv : cfg.e.valid = true) (hp : cfg.e.noPtile = true)
    (hres : 0 < cfg.res) (c : Col) (s : ColSpec) (inv : ColInv x cfg c s) (op : ColOp)
    (hop : OpsPos [op]) : ColInv x cfg (c.step x cfg op) (s.step x cfg op) := by
  have h := colInvB_step x cfg hv hp hres c s c.now (colInvB_iff.2 inv) op hop
  rw [← h.now_eq, Int.max_eq_right (Col.now_le_step x cfg c op)] at h
  exact colInvB_iff.1 h

theorem colInv_foldl (x : Ext) (cfg : ColCfg) (hv : cfg.e.valid = true) (hp : cfg.e.noPtile = true)
    (hres : 0 < cfg.res) (ops : List ColOp) :
    ∀ (c : Col) (s : ColSpec), ColInv x cfg c s → OpsPos ops →
      ColInv x cfg (ops.foldl (Col.step x cfg) c) (ops.foldl (ColSpec.step x cfg) s) := by
  induction ops with
  | nil => intro c s inv _; exact inv
  | cons op r ih =>
    intro c s inv hpos
    obtain ⟨h1, h2⟩ : OpsPos [op] ∧ OpsPos r := by
      cases op <;> simp_all [OpsPos]
    exact ih _ _ (colInv_step x cfg hv hp hres c s inv op h1) h2

theorem colInv_run (x : Ext) (cfg : ColCfg) (hv : cfg.e.valid = true) (hp : cfg.e.noPtile = true)
    (hres : 0 < cfg.res) (ops : List ColOp) (hpos : OpsPos ops) :
    ColInv x cfg (Col.run x cfg ops) (ColSpec.run x cfg ops) :=
  colInv_foldl x cfg hv hp hres ops _ _ (colInv_init x cfg hv hp) hpos

/-- what a memstore-inclusive scan returns on a live period is the spec's state -/
theorem view_eq_spec (x : Ext) (cfg : ColCfg) (hv : cfg.e.valid = true) (hp : cfg.e.noPtile = true)
    (hres : 0 < cfg.res) {c : Col} {s : ColSpec} (inv : ColInv x cfg c s) (T : Int)
    (hl : Live cfg c.now T) (hT0 : 0 < T) :
    ((c.view cfg true).at cfg.e cfg.res T) = s.cells T := by
  simp only [Col.view, if_true]
  rw [sem_merge_live hv hp hres c.file c.mem inv.fileOk inv.memOk inv.fileWF inv.memWF _ T hl.1 hl.2]
  exact inv.agree T hl hT0

end Zeno
