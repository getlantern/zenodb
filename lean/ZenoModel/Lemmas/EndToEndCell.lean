/-
End-to-end: the composition.  The store half (`scanCol_at_eq_acc`: scan = raw
points, per key and live period) gives the hypotheses `hstore`, `hkeys`, `hper` of the query half
(`groupCell_at_spec`: grouped cell = bucket accumulation).  Its fourth hypothesis
`hcover` asks for a scan row for every key that has an accepted row inside the window; it is met by
restricting the accepted rows to scanned keys: for a key without a scan row the scan reads `none`,
hence each of its live (key, period) groups accumulates to the empty state
(`uncovered_empty_of_scanView`), and such groups can be removed from a bucket without changing its
accumulation (`specBucket_drop_uncovered`).  The window `planLocal` hands to `core.Group` lies inside
the store's live range: the store guarantees every period `T > now − retention`; the group window is
`(gAsOf, gUntil]` with `gAsOf ≥ tableAsOf = roundUp (roundUp now − retention) ≥ now − retention` —
both roundings go up, so there is no gap at the boundary.  The read-out for plain selected fields
(`PlainField`, `plain_readOut`) is at the end.
-/
import ZenoModel.Lemmas.EndToEndRows
import ZenoModel.Lemmas.EndToEndScan
import ZenoModel.Lemmas.EndToEndSpecOut
namespace Zeno

/-- the WHERE bit of a scan row's key as `runQuery` reads it (no metadata: dropped) -/
def runWhere (metas : List KeyMeta) (κ : Key) : Bool :=
  ((metas.find? (fun m => m.key == κ)).map (·.whereOk)).getD false

/-- `runQuery`'s WHERE filter on scan rows -/
def whereRows (q : Query) (metas : List KeyMeta) (rows : List Row) : List Row :=
  if q.hasWhere then rows.filter (fun r => runWhere metas r.key) else rows

theorem mem_whereRows (q : Query) (metas : List KeyMeta) (rows : List Row) (r : Row) :
    r ∈ whereRows q metas rows ↔ r ∈ rows ∧ (q.hasWhere = true → runWhere metas r.key = true) := by
  unfold whereRows
  by_cases h : q.hasWhere = true
  · simp [h, List.mem_filter]
  · simp [h]

theorem whereRows_sublist (q : Query) (metas : List KeyMeta) (rows : List Row) :
    (whereRows q metas rows).Sublist rows := by
  unfold whereRows; split
  · exact List.filter_sublist
  · exact List.Sublist.refl _

theorem specWhere_of_runWhere (metas : List KeyMeta) (κ : Key) (h : runWhere metas κ = true) :
    (specMetaOf metas κ).whereOk = true := by
  unfold runWhere at h
  unfold specMetaOf
  cases hf : metas.find? (fun m => m.key == κ) with
  | none => rw [hf] at h; simp at h
  | some m => rw [hf] at h; simpa using h

/-- the converse needs metadata for the key: without, the spec's default is "passes" -/
theorem runWhere_of_specWhere (metas : List KeyMeta) (κ : Key) (hm : ∃ m ∈ metas, m.key = κ)
    (h : (specMetaOf metas κ).whereOk = true) : runWhere metas κ = true := by
  unfold runWhere
  unfold specMetaOf at h
  cases hf : metas.find? (fun m => m.key == κ) with
  | none =>
    obtain ⟨m, hm1, hm2⟩ := hm
    have := List.find?_eq_none.mp hf m hm1
    simp [hm2] at this
  | some m => rw [hf] at h; simpa using h

theorem mem_specRows (q : Query) (metas : List KeyMeta) (A0 : List AccRow) (a : AccRow) :
    a ∈ specRows q metas A0 ↔ a ∈ A0 ∧ (q.hasWhere = true → (specMetaOf metas a.key).whereOk = true) := by
  unfold specRows
  by_cases h : q.hasWhere = true
  · simp [h, List.mem_filter]
  · simp [h]

theorem keyPeriodPts_filter_good (A : List AccRow) (adj : AccRow → Pt) (good : AccRow → Bool) (κ : Key) (t : Int)
    (h : ∀ a : AccRow, a.key = κ → good a = true) :
    keyPeriodPts (A.filter good) adj κ t = keyPeriodPts A adj κ t := by
  unfold keyPeriodPts
  rw [filter_filter_of_imp]
  intro a _ ha
  simp only [Bool.and_eq_true, beq_iff_eq] at ha
  exact h a ha.1

/-- the spec's WHERE (a per-key bit) keeps or drops the (key, period) groups whole -/
theorem keyPeriodPts_specRows (q : Query) (metas : List KeyMeta) (A0 : List AccRow) (adj : AccRow → Pt)
    (κ : Key) (t : Int) (h : q.hasWhere = true → (specMetaOf metas κ).whereOk = true) :
    keyPeriodPts (specRows q metas A0) adj κ t = keyPeriodPts A0 adj κ t := by
  unfold specRows
  split
  · rename_i hw
    apply keyPeriodPts_filter_good
    intro a ha
    rw [ha]
    exact h hw
  · rfl

/-- "the key of `a` has a row among `rows`" -/
def hasRow (rows : List Row) (a : AccRow) : Bool := rows.any (fun r => r.key == a.key)

theorem hasRow_key (rows : List Row) (a b : AccRow) (h : a.key = b.key) : hasRow rows a = hasRow rows b := by
  unfold hasRow; rw [h]

theorem hasRow_iff {rows : List Row} {a : AccRow} : hasRow rows a = true ↔ ∃ r ∈ rows, r.key = a.key := by
  simp [hasRow, List.any_eq_true]

/-! The composition, for any scan that reads the accepted rows:
`rows0` is a `ScanView` (at out position `j`, table column `ti`) of the full scan of a store `st`
whose state at every (key, period end `t` in the window `(lo, hi]`) is the accumulation of the
(key, period) group of the accepted rows `A0` (`hlive`).  Nothing else is asked of `st` and `A0`. -/

section
variable {cfg : TableCfg} {st : Store} {ti j : Nat} {rows0 : List Row} (sv : ScanView cfg st ti j rows0)
  (q : Query) (metas : List KeyMeta) (x : Ext) {e : Ex} {A0 : List AccRow} {lo hi : Int}
  (hlive : ∀ κ t, lo < t ∧ t ≤ hi → (scanCol cfg st true κ ti).at e cfg.res t = e.acc x (keyPeriodPts A0 (·.pt) κ t))
include sv hlive

/-- `hstore` of `groupCell_at_spec`, for the accepted rows restricted to scanned keys -/
theorem hstore_of_scanView : ∀ r ∈ whereRows q metas rows0, ∀ t, lo < t ∧ t ≤ hi →
    (r.cols.getD j none).at e cfg.res t =
      e.acc x (keyPeriodPts ((specRows q metas A0).filter (hasRow (whereRows q metas rows0))) (·.pt) r.key t) := by
  intro r hr t ht
  obtain ⟨hr0, hrw⟩ := (mem_whereRows q metas rows0 r).mp hr
  rw [keyPeriodPts_filter_good _ _ _ r.key t (fun a ha => hasRow_iff.mpr ⟨r, hr, ha.symm⟩),
    keyPeriodPts_specRows q metas _ _ r.key t (fun hw => specWhere_of_runWhere metas r.key (hrw hw)),
    sv.col r hr0]
  exact hlive r.key t ht

/-- the hypothesis of `specBucket_drop_uncovered`: an accepted, WHERE-passing row whose key has no
    scan row belongs to a (key, period) group that accumulates to the empty state -/
theorem uncovered_empty_of_scanView
    (hmetas : q.hasWhere = true → ∀ a ∈ A0, ∃ m ∈ metas, m.key = a.key) :
    ∀ a ∈ specRows q metas A0, lo < a.period ∧ a.period ≤ hi → hasRow (whereRows q metas rows0) a = false →
      e.acc x (keyPeriodPts (specRows q metas A0) (·.pt) a.key a.period) = e.empty := by
  intro a ha hwin hbad
  obtain ⟨ha0, haw⟩ := (mem_specRows q metas _ a).mp ha
  rw [keyPeriodPts_specRows q metas _ _ a.key a.period haw, ← hlive a.key a.period hwin]
  have hnone : scanCol cfg st true a.key ti = none := by
    apply sv.cover
    intro r hr0 hk
    have hr : r ∈ whereRows q metas rows0 := by
      rw [mem_whereRows]
      refine ⟨hr0, fun hw => ?_⟩
      rw [hk]
      exact runWhere_of_specWhere metas a.key (hmetas hw a ha0) (haw hw)
    rw [hasRow_iff.mpr ⟨r, hr, hk⟩] at hbad
    cases hbad
  rw [hnone]; rfl

end

/-- under the side conditions of the query half (`GroupCell`), the grouped cell
    over such a scan is the accumulation of the spec's bucket of `A0` inside the window, and empty
    outside -/
theorem groupCell_of_scanView (x : Ext) {cfg : TableCfg} {now : Int} {q : Query} {pl : Plan} {inFields : List Field}
    {metas : List KeyMeta} {rows0 : List Row} {kk i j : Nat} {f : Field}
    (H : GroupCell cfg now q pl inFields (whereRows q metas rows0) kk i f j)
    {st : Store} {ti : Nat} (sv : ScanView cfg st ti j rows0) {A0 : List AccRow}
    (hper : ∀ a ∈ A0, a.period % cfg.res = 0)
    (hmetas : q.hasWhere = true → ∀ a ∈ A0, ∃ m ∈ metas, m.key = a.key)
    (hlive : ∀ κ t, gAsOfOf cfg now pl < t ∧ t ≤ gUntilOf cfg now pl →
      (scanCol cfg st true κ ti).at f.ex cfg.res t = f.ex.acc x (keyPeriodPts A0 (·.pt) κ t))
    (k : Key) (T : Int) (hT : (gUntilOf cfg now pl - T) % gResOf cfg pl = 0) :
    (groupCell cfg now q pl inFields metas (whereRows q metas rows0) k i).at f.ex (gResOf cfg pl) T =
      if gAsOfOf cfg now pl < T ∧ T ≤ gUntilOf cfg now pl
      then f.ex.acc x (specBucketPts q (specRows q metas A0) (·.pt) (gAsOfOf cfg now pl) (gUntilOf cfg now pl)
        (gResOf cfg pl) k T)
      else f.ex.empty := by
  split
  · rename_i hW
    rw [groupCell_at_spec x H metas k T hT hW
      ((specRows q metas A0).filter (hasRow (whereRows q metas rows0))) (·.pt) ?hper ?hkeys ?hcover
      (hstore_of_scanView sv q metas x hlive)]
    · exact (specBucket_drop_uncovered x H.valid H.noPtile q _ (·.pt) _ _ _ k T
        (hasRow (whereRows q metas rows0)) (hasRow_key _)
        (uncovered_empty_of_scanView sv q metas x hlive hmetas)).symm
    case hper =>
      intro a ha
      exact hper a ((mem_specRows q metas _ a).mp (List.mem_filter.mp ha).1).1
    case hkeys => exact List.Nodup.sublist (List.Sublist.map _ (whereRows_sublist q metas rows0)) sv.keys
    case hcover => exact fun a ha _ => hasRow_iff.mp (List.mem_filter.mp ha).2
  · rename_i hW
    exact (groupCell_inv H metas k).2 T hW

/-- `hstore`, at the level of the store's own scan reading: inside the live range the state the
    scan holds for (key, period end `t`) — on the grid or not — is the accumulation of the accepted
    rows (QuerySpec's `acceptedRows` on the points of the script) of that key and period -/
theorem scanCol_at_live (x : Ext) (cfg : TableCfg) (wf : CfgWF cfg) (ops : List StoreOp) (hpos : StorePos ops)
    (key : Key) (ti : Nat) (hti : ti < cfg.fields.length)
    (hv : (cfg.fields[ti]).ex.valid = true) (hp : (cfg.fields[ti]).ex.noPtile = true) (t : Int)
    (hlive : t > (runStore x cfg ops).now - cfg.retention) (ht0 : 0 < t) :
    (scanCol cfg (runStore x cfg ops) true key ti).at (cfg.fields[ti]).ex cfg.res t =
      (cfg.fields[ti]).ex.acc x (keyPeriodPts (acceptedRows cfg true (pointsOf ops)).1 (·.pt) key t) := by
  rw [acceptedRows_eq]
  simp only
  by_cases hg : t % cfg.res = 0
  · rw [scanCol_at_eq_acc x cfg wf ops hpos key ti hti hv hp t hg hlive ht0,
      tableRowsFor_eq_keyPeriodPts]
  · rw [at_off_grid _ _ (scanCol_ok x cfg wf ops hpos key ti hti hv hp).1 t hg]
    have hnil : keyPeriodPts (accRowsFrom cfg true 0 (pointsOf ops)) (·.pt) key t = [] := by
      unfold keyPeriodPts
      rw [List.map_eq_nil_iff, List.filter_eq_nil_iff]
      intro a ha
      have hper := accRowsFrom_period cfg wf.res_pos true _ 0 a ha
      simp only [Bool.and_eq_true, beq_iff_eq, not_and]
      intro _ hpt
      apply hg; rw [← hpt]; exact hper
    rw [hnil]; rfl

/-- how the selected field `f` (`i`-th of the query) is tied to the scan and to the table: it is
    the `j`-th scanned field and the `ti`-th table field (same expression), valid, without
    PERCENTILE and SHIFT, and sub-merged from that scanned field alone, directly -/
structure FieldTie (cfg : TableCfg) (q : Query) (inFields : List Field) (i : Nat) (f : Field) (j ti : Nat) : Prop where
  outField : q.outFields[i]? = some f
  inField : ∃ inF, inFields[j]? = some inF ∧ inF.ex = f.ex
  tableField : ∃ h : ti < cfg.fields.length, (cfg.fields[ti]).ex = f.ex
  valid : f.ex.valid = true
  noPtile : f.ex.noPtile = true
  noShift : f.ex.shiftOf = 0
  oneHot : OneHot (dedupInputs (inFields.map (·.ex)) (f.ex.subMergers (inFields.map (·.ex)))) j f.ex

/-- store script, query and plan of the end-to-end theorems -/
structure E2ECtx (x : Ext) (cfg : TableCfg) (ops : List StoreOp) (q : Query) (metas : List KeyMeta) (pl : Plan) : Prop where
  /-- fields print pairwise differently, `0 < res`, `0 ≤ retention` -/
  wf : CfgWF cfg
  /-- every point is stamped after Go's zero time -/
  pos : StorePos ops
  /-- the plan is `planLocal`'s at the store's clock -/
  plan : planLocal cfg (runStore x cfg ops).now q = .ok pl
  /-- no STRIDE -/
  noStride : q.stride ≤ 0
  /-- the window does not reach back to Go's zero time (which `Truncate` reads as "no bound") -/
  asOfPos : 0 < gAsOfOf cfg (runStore x cfg ops).now pl
  /-- with a WHERE clause, the per-key WHERE bit is supplied for every key of the script -/
  metasCover : q.hasWhere = true → ∀ a ∈ (acceptedRows cfg true (pointsOf ops)).1, ∃ m ∈ metas, m.key = a.key

/-- the selected field `f` is a scanned table field, sub-merged from it alone, directly -/
structure ScannedField (cfg : TableCfg) (q : Query) (f : Field) : Prop where
  scanned : ∃ j inF, (includedFields cfg q)[j]? = some inF ∧ inF.ex = f.ex ∧
    OneHot (dedupInputs ((includedFields cfg q).map (·.ex)) (f.ex.subMergers ((includedFields cfg q).map (·.ex)))) j f.ex
  valid : f.ex.valid = true
  noPtile : f.ex.noPtile = true
  noShift : f.ex.shiftOf = 0

/-- the rows `runQuery` hands to `core.Group`: the memstore-inclusive scan of the script's store,
    filtered by WHERE -/
def e2eScan (x : Ext) (cfg : TableCfg) (ops : List StoreOp) (q : Query) (metas : List KeyMeta) : List Row :=
  whereRows q metas ((runStore x cfg ops).iterate cfg (includedFields cfg q) true).rows

section
variable {x : Ext} {cfg : TableCfg} {ops : List StoreOp} {q : Query} {metas : List KeyMeta} {pl : Plan}
  (C : E2ECtx x cfg ops q metas pl)
include C

theorem E2ECtx.window :
    SMWindow (gResOf cfg pl) cfg.res (gResOf cfg pl / cfg.res).toNat (gAsOfOf cfg (runStore x cfg ops).now pl)
      (gUntilOf cfg (runStore x cfg ops).now pl) :=
  planLocal_window cfg _ q pl C.plan C.wf.res_pos C.asOfPos

theorem E2ECtx.resPos : 0 < gResOf cfg pl := C.window.resPos

/-- `hlive` of the composition: the scan of the script's store reads the accepted rows in the
    whole group window -/
theorem E2ECtx.scan_live (ti : Nat) (hti : ti < cfg.fields.length) (hv : (cfg.fields[ti]).ex.valid = true)
    (hp : (cfg.fields[ti]).ex.noPtile = true) (κ : Key) (t : Int)
    (ht : gAsOfOf cfg (runStore x cfg ops).now pl < t ∧ t ≤ gUntilOf cfg (runStore x cfg ops).now pl) :
    (scanCol cfg (runStore x cfg ops) true κ ti).at (cfg.fields[ti]).ex cfg.res t =
      (cfg.fields[ti]).ex.acc x (keyPeriodPts (acceptedRows cfg true (pointsOf ops)).1 (·.pt) κ t) := by
  have h1 := planLocal_window_live cfg _ q pl C.plan C.wf.res_pos
  have h2 := C.asOfPos
  exact scanCol_at_live x cfg C.wf ops C.pos κ ti hti hv hp t (by omega) (by omega)

end

/-- `GroupCell` (the side conditions of the query half) for the scan `runQuery` performs.  The
    context hypotheses are taken one by one: `group_cell_outside_window_empty` has no `metasCover` -/
theorem groupCell_included (x : Ext) {cfg : TableCfg} (wf : CfgWF cfg) {ops : List StoreOp} (hpos : StorePos ops)
    {q : Query} {metas : List KeyMeta} {pl : Plan} (hpl : planLocal cfg (runStore x cfg ops).now q = .ok pl)
    (hstride : q.stride ≤ 0) (hpos0 : 0 < gAsOfOf cfg (runStore x cfg ops).now pl)
    (i : Nat) (f : Field) (hout : q.outFields[i]? = some f) (sf : ScannedField cfg q f) :
    ∃ j ti, ∃ _ : ti < cfg.fields.length, (cfg.fields[ti]).ex = f.ex ∧
      ScanView cfg (runStore x cfg ops) ti j ((runStore x cfg ops).iterate cfg (includedFields cfg q) true).rows ∧
      GroupCell cfg (runStore x cfg ops).now q pl (includedFields cfg q) (e2eScan x cfg ops q metas)
        (gResOf cfg pl / cfg.res).toNat i f j := by
  obtain ⟨j, inF, hin, hex, hone⟩ := sf.scanned
  obtain ⟨ti, hti, hfe⟩ := includedFields_index cfg q j inF hin
  have hte : (cfg.fields[ti]).ex = f.ex := by rw [hfe]; exact hex
  have sv := scanView_included cfg wf.distinct _ (storeInv_run x cfg wf.res_pos ops hpos) q j ti hti
    (by rw [hfe]; exact hin)
  refine ⟨j, ti, hti, hte, sv,
    planLocal_noStride cfg _ q pl hpl hstride, planLocal_window cfg _ q pl hpl wf.res_pos hpos0, hout, sf.valid,
    sf.noPtile, sf.noShift, ⟨inF, hin, hex⟩, hone, fun r hr => ?_⟩
  have hr0 := ((mem_whereRows q metas _ r).mp hr).1
  have hok := scanCol_ok x cfg wf ops hpos r.key ti hti (by rw [hte]; exact sf.valid) (by rw [hte]; exact sf.noPtile)
  rw [hte, ← sv.col r hr0] at hok
  exact ⟨sv.width r hr0, hok⟩

theorem e2e_cell_included (x : Ext) {cfg : TableCfg} {ops : List StoreOp} {q : Query} {metas : List KeyMeta} {pl : Plan}
    (C : E2ECtx x cfg ops q metas pl) (i : Nat) (f : Field) (hout : q.outFields[i]? = some f)
    (sf : ScannedField cfg q f) (k : Key) (T : Int)
    (hT : (gUntilOf cfg (runStore x cfg ops).now pl - T) % gResOf cfg pl = 0) :
    (groupCell cfg (runStore x cfg ops).now q pl (includedFields cfg q) metas (e2eScan x cfg ops q metas) k i).at
        f.ex (gResOf cfg pl) T =
      if gAsOfOf cfg (runStore x cfg ops).now pl < T ∧ T ≤ gUntilOf cfg (runStore x cfg ops).now pl
      then f.ex.acc x (specBucketPts q (specRows q metas (acceptedRows cfg true (pointsOf ops)).1) (·.pt)
        (gAsOfOf cfg (runStore x cfg ops).now pl) (gUntilOf cfg (runStore x cfg ops).now pl) (gResOf cfg pl) k T)
      else f.ex.empty := by
  obtain ⟨j, ti, hti, hex, sv, H⟩ := groupCell_included x C.wf C.pos C.plan C.noStride C.asOfPos i f hout sf
  refine groupCell_of_scanView x H sv (acceptedRows_period cfg C.wf.res_pos true _) C.metasCover ?_ k T hT
  rw [← hex]
  exact C.scan_live ti hti (by rw [hex]; exact sf.valid) (by rw [hex]; exact sf.noPtile)

theorem runQuery_grouped (x : Ext) (cfg : TableCfg) (st : Store) (q : Query) (metas : List KeyMeta) (pl : Plan)
    (hpl : planLocal cfg st.now q = .ok pl) (hne : (includedFields cfg q).isEmpty = false)
    (hng : pl.needsGroupBy = true) :
    runQuery x cfg st q metas true =
      let flat := (groupRows cfg st.now q pl (includedFields cfg q) metas
        (whereRows q metas (st.iterate cfg (includedFields cfg q) true).rows)).1.flatMap
          (flattenRow x q.outFields (gResOf cfg pl))
      .ok (if q.hasHaving then havingFilter flat else flat) := by
  unfold runQuery
  rw [hpl]
  simp only [bind, Except.bind, hne, hng, pure, Except.pure, Bool.false_eq_true, if_false, if_true]
  rfl

/-- `specQuery` on the points of a script plans at the store's clock (flushes do not move it) -/
theorem specQuery_script (x : Ext) (cfg : TableCfg) (ops : List StoreOp) (q : Query) (metas : List KeyMeta) (pl : Plan)
    (hpl : planLocal cfg (runStore x cfg ops).now q = .ok pl) :
    specQuery x cfg true (pointsOf ops) q metas =
      .ok (specOut x cfg q metas (acceptedRows cfg true (pointsOf ops)).1 (runStore x cfg ops).now pl) := by
  have hclock : (acceptedRows cfg true (pointsOf ops)).2 = (runStore x cfg ops).now := by
    rw [acceptedRows_eq, runStore_now, nowAfter_eq_clockFrom]
  rw [specQuery_eq, hclock, hpl]

/-- a selected field of the read-out theorem: a scanned table field that is not constant, has no
    value without data, and does not read the per-key IF conditions of the query -/
structure PlainField (x : Ext) (cfg : TableCfg) (q : Query) (metas : List KeyMeta) (f : Field) : Prop where
  scanned : ScannedField cfg q f
  nonConst : f.ex.isConstant = false
  noValueOnEmpty : f.ex.val x f.ex.empty = none
  condsIrrelevant : ∀ l : List AccRow, f.ex.acc x (l.map (specAdj metas)) = f.ex.acc x (l.map (·.pt))

/-- the grouped rows `runQuery` flattens -/
def e2eGroup (x : Ext) (cfg : TableCfg) (ops : List StoreOp) (q : Query) (metas : List KeyMeta) (pl : Plan) : List Row :=
  (groupRows cfg (runStore x cfg ops).now q pl (includedFields cfg q) metas (e2eScan x cfg ops q metas)).1

/-- the read-out applies to queries whose selected fields are all `PlainField`s (otherwise: known
    finding empty-bucket-row) -/
theorem plain_readOut (x : Ext) {cfg : TableCfg} {ops : List StoreOp} {q : Query} {metas : List KeyMeta} {pl : Plan}
    (C : E2ECtx x cfg ops q metas pl) (hall : ∀ f ∈ q.outFields, PlainField x cfg q metas f) :
    ReadOut x cfg (runStore x cfg ops).now q pl (includedFields cfg q) metas (e2eScan x cfg ops q metas)
      (specRows q metas (acceptedRows cfg true (pointsOf ops)).1) (gAsOfOf cfg (runStore x cfg ops).now pl)
      (gUntilOf cfg (runStore x cfg ops).now pl) (gResOf cfg pl) := by
  refine ⟨C.resPos, fun i hi k => ?_, fun i hi k T hT => ?_,
    fun f hf _ => ⟨(hall f hf).scanned.valid, (hall f hf).scanned.noPtile⟩⟩
  · obtain ⟨j, _, _, _, _, H⟩ := groupCell_included x C.wf C.pos C.plan C.noStride C.asOfPos (metas := metas) i _
      (List.getElem?_eq_getElem hi) (hall _ (List.getElem_mem hi)).scanned
    exact onGrid_of_recvGrid (groupCell_inv H metas k).1
  · have pf := hall _ (List.getElem_mem hi)
    rw [e2e_cell_included x C i _ (List.getElem?_eq_getElem hi) pf.scanned k T hT]
    split
    · unfold specBucketPts
      rw [pf.condsIrrelevant]
    · rename_i hW
      rw [specBucketPts_outside q _ _ C.resPos k T hW]
      rfl

end Zeno
