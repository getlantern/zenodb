/-
C11 lemmas, pushdown side: soundness of `pushdownWalk` (equal outermost group keys force equal
partition-key projections), the spec evaluator distributes over a key-separated split of its
input, level by level through a FROM-subquery chain, and what `clusterRun` is for a pushed-down
statement.  At the end: `Opts.IsSubQuery` does not change the pushdown decision for the statement of an
IN-subquery (`pushdownWalk_asSub`), and a table that keeps the partition keys partitions a point by its
stored key (`pkProj_storedKey`).
-/
import ZenoModel.Lemmas.PlanOrder

namespace Zeno.PlanLemmas
open Zeno Zeno.Plan

/-- what `WalkOneToOneParams` promises: equal values of the expression force equal values of
    every param it declares one-to-one -/
def GBSound (g : GroupBy) : Prop :=
  ∀ k₁ k₂ : DKey, g.eval k₁ = g.eval k₂ → ∀ p ∈ g.oneToOne, k₁.get p = k₂.get p

/-- an expression reads the key through its params only -/
def GBLocal (g : GroupBy) : Prop :=
  ∀ k₁ k₂ : DKey, (∀ p ∈ g.allParams, k₁.get p = k₂.get p) → g.eval k₁ = g.eval k₂

/-- one SELECT: distinct GROUP BY names (the parser keys them by name), one-to-one
    declarations that hold, and no `*` next to explicit dimensions (known finding
    C11-wildcard-plus-dims-pushdown) -/
structure QWF (q : Query) : Prop where
  names : (q.by_.map (·.name)).Nodup
  sound : ∀ g ∈ q.by_, GBSound g
  noStarDims : q.byAll = true → q.by_ = []

def TreeWF : QTree → Prop
  | .table q => QWF q
  | .sub q inner => QWF q ∧ TreeWF inner

theorem lookup_proj_none {bs : List GroupBy} {n : String} (h : n ∉ bs.map (·.name)) (k : DKey) :
    List.lookup n (bs.filterMap (fun b => (b.eval k).map (fun v => (b.name, v)))) = none := by
  rw [List.lookup_eq_none_iff]
  intro p hp
  obtain ⟨b, hb, e⟩ := List.mem_filterMap.mp hp
  obtain ⟨v, _, rfl⟩ := Option.map_eq_some_iff.mp e
  have : n ≠ b.name := fun e => h (e ▸ List.mem_map_of_mem hb)
  simpa using this

theorem lookup_proj {bs : List GroupBy} (hn : (bs.map (·.name)).Nodup) {g : GroupBy}
    (hg : g ∈ bs) (k : DKey) :
    List.lookup g.name (bs.filterMap (fun b => (b.eval k).map (fun v => (b.name, v)))) = g.eval k := by
  induction bs with
  | nil => cases hg
  | cons b bs ih =>
    have hb : b.name ∉ bs.map (·.name) := (List.nodup_cons.mp hn).1
    have hn' := (List.nodup_cons.mp hn).2
    rcases List.mem_cons.mp hg with rfl | hg'
    · cases hv : g.eval k with
      | none =>
        simp only [List.filterMap_cons, hv, Option.map_none]
        exact lookup_proj_none hb k
      | some v => simp [hv]
    · have hne : (g.name == b.name) = false := by
        have : g.name ≠ b.name := fun e => hb (e ▸ List.mem_map_of_mem hg')
        simpa using this
      cases hv : b.eval k with
      | none => simpa [hv] using ih hn' hg'
      | some v => simpa [hv, List.lookup_cons, hne] using ih hn' hg'

theorem sliceKey_get {q : Query} (hn : (q.by_.map (·.name)).Nodup) {g : GroupBy} (hg : g ∈ q.by_)
    (k : DKey) : (sliceKey q k).get g.name = g.eval k := by
  have : q.by_.isEmpty = false := by
    cases h : q.by_ with
    | nil => simp [h] at hg
    | cons _ _ => rfl
  simp only [sliceKey, this, DKey.get]
  exact lookup_proj hn hg k

theorem sliceKey_id {q : Query} (hb : q.by_ = []) (hc : q.ctab = none) (k : DKey) :
    sliceKey q k = k := by
  simp [sliceKey, hb, hc]

/-- what the walk knows about the levels above: `U` maps a key of the current level to the
    key of the outermost group; equal outermost keys force equal keys (`all`) or at least
    equal values of the dimensions in `P` -/
def Inj (all : Bool) (P : List String) (U : DKey → DKey) : Prop :=
  ∀ k₁ k₂ : DKey, U k₁ = U k₂ → if all then k₁ = k₂ else ∀ n ∈ P, k₁.get n = k₂.get n

theorem mem_gbParams {all : Bool} {P : List String} {bs : List GroupBy} {n : String}
    (h : n ∈ gbParams all P bs) : ∃ g ∈ bs, (all = true ∨ g.name ∈ P) ∧ n ∈ g.oneToOne := by
  simp only [gbParams, List.mem_flatMap] at h
  obtain ⟨g, hg, hn⟩ := h
  split at hn
  · rename_i hc
    exact ⟨g, hg, by simpa using hc, hn⟩
  · cases hn

/-- one level of the walk: below a SELECT with explicit dimensions the parent's knowledge is
    replaced by the one-to-one params of its GROUP BY expressions; a wildcard keeps the key -/
theorem Inj.step {q : Query} (hq : QWF q) (hc : q.ctab = none) {all : Bool} {P : List String}
    {U : DKey → DKey} (hU : Inj all P U) :
    Inj (q.byAll && all) (if q.byAll then P else gbParams all P q.by_) (fun k => U (sliceKey q k)) := by
  intro k₁ k₂ (h : U (sliceKey q k₁) = U (sliceKey q k₂))
  cases hba : q.byAll with
  | true =>
    have hb := hq.noStarDims hba
    rw [sliceKey_id hb hc, sliceKey_id hb hc] at h
    simpa using hU k₁ k₂ h
  | false =>
    simp only [Bool.false_and, Bool.false_eq_true, if_false]
    intro n hn
    obtain ⟨g, hg, hcond, hone⟩ := mem_gbParams hn
    have hget : (sliceKey q k₁).get g.name = (sliceKey q k₂).get g.name := by
      have := hU _ _ h
      cases all with
      | true => rw [if_pos rfl] at this; rw [this]
      | false => exact this g.name (by simpa using hcond)
    rw [sliceKey_get hq.names hg, sliceKey_get hq.names hg] at hget
    exact hq.sound g hg k₁ k₂ hget n hone

theorem Inj.pkProj_eq {all : Bool} {P : List String} {U : DKey → DKey} (hU : Inj all P U)
    {pk : List String} (hw : (all || !pk.isEmpty && pk.all (fun n => P.contains n)) = true)
    {k₁ k₂ : DKey} (h : U k₁ = U k₂) : pkProj pk k₁ = pkProj pk k₂ := by
  have := hU k₁ k₂ h
  cases all with
  | true => rw [if_pos rfl] at this; rw [this]
  | false =>
    simp only [Bool.false_or, Bool.and_eq_true, Bool.not_eq_true', List.all_eq_true] at hw
    simp only [pkProj, hw.1, Bool.false_eq_true, if_false] at this ⊢
    exact filterMap_congr fun n hn => by rw [this n (by simpa using hw.2 n hn)]

def Plain : QTree → Prop
  | .table q => q.ctab = none
  | .sub q inner => q.ctab = none ∧ emptyOlo inner.top.olo ∧ Plain inner

/-- the walk threads `(all, P)` through the levels by the step of `Inj.step` -/
theorem pushdownWalk_sub (pk : List String) (all : Bool) (P : List String) (q : Query) (inner : QTree) :
    pushdownWalk pk all P (.sub q inner) =
      pushdownWalk pk (q.byAll && all) (if q.byAll then P else gbParams all P q.by_) inner := by
  cases h : q.byAll <;> simp [pushdownWalk, h]

theorem pushdownWalk_table (pk : List String) (all : Bool) (P : List String) (q : Query) :
    pushdownWalk pk all P (.table q) = (q.byAll && all ||
      !pk.isEmpty && pk.all (fun n => (if q.byAll then P else gbParams all P q.by_).contains n)) := by
  cases h : q.byAll <;> cases all <;> cases h' : pk.isEmpty <;> simp [pushdownWalk, h, h']

theorem pushdownWalk_sound (pk : List String) (t : QTree) :
    ∀ (all : Bool) (P : List String) (U : DKey → DKey),
      TreeWF t → Plain t → Inj all P U → pushdownWalk pk all P t = true →
      ∀ k₁ k₂ : DKey, U (chainKey t k₁) = U (chainKey t k₂) → pkProj pk k₁ = pkProj pk k₂ := by
  induction t with
  | table q =>
    intro all P U hq hc hU hw k₁ k₂ h
    rw [pushdownWalk_table] at hw
    exact (hU.step hq hc).pkProj_eq hw h
  | sub q inner ih =>
    intro all P U hq hc hU hw k₁ k₂ h
    rw [pushdownWalk_sub] at hw
    exact ih _ _ _ hq.2 hc.2.2 (hU.step hq.1 hc.1) hw k₁ k₂ h

theorem plain_of_subsClean : ∀ (t : QTree), subsClean t = true → t.top.ctab = none → Plain t := by
  intro t
  induction t with
  | table q => intro _ h; exact h
  | sub q inner ih =>
    intro hs h
    simp only [subsClean, Bool.and_eq_true, Bool.not_eq_true'] at hs
    have := hs.1.1
    simp only [disallowedInSub, Bool.or_eq_false_iff, decide_eq_false_iff_not, Nat.not_lt,
      Nat.le_zero_eq, Option.isSome_eq_false_iff, Option.isNone_iff_eq_none] at this
    obtain ⟨⟨⟨h1, h2⟩, h3⟩, h4⟩ := this
    exact ⟨h, ⟨List.length_eq_zero_iff.mp h1, h3, h4⟩, ih hs.2 h2⟩

theorem pushdownAllowed_plain {pk : List String} {t : QTree} (hp : pushdownAllowed pk t = true) :
    Plain t ∧ pushdownWalk pk true [] t = true := by
  unfold pushdownAllowed at hp
  cases hc : t.top.ctab <;> cases hs : subsClean t <;> simp [hc, hs] at hp
  exact ⟨plain_of_subsClean t hs hc, hp⟩

variable (x : Ext)

def KeySep (κ : DKey → DKey) (A B : List PRow) : Prop := ∀ a ∈ A, ∀ b ∈ B, κ a.key ≠ κ b.key

theorem runPre_append (q : Query) (s : Src) (cv : List String) (A B : List PRow)
    (h : KeySep (sliceKey q) A B) :
    runPre x q s cv (A ++ B) = runPre x q s cv A ++ runPre x q s cv B := by
  have hdis : ∀ g ∈ (A.filter (admits q s)).map (gid q s), g ∉ (B.filter (admits q s)).map (gid q s) := by
    intro g hgA hgB
    obtain ⟨a, ha, rfl⟩ := List.mem_map.mp hgA
    obtain ⟨b, hb, hab⟩ := List.mem_map.mp hgB
    exact h a (List.mem_filter.mp ha).1 b (List.mem_filter.mp hb).1 (congrArg Prod.fst hab).symm
  simp only [runPre]
  rw [List.filter_append, List.map_append, dedup_append_disjoint _ _ hdis, List.filterMap_append]
  refine congr (congrArg _ (filterMap_congr fun g hg => ?_)) (filterMap_congr fun g hg => ?_)
  · simp only [List.filter_append, filter_beq_eq_nil (hdis g ((mem_dedup g _).mp hg)), List.append_nil]
  · simp only [List.filter_append, filter_beq_eq_nil fun hgA => hdis g hgA ((mem_dedup g _).mp hg),
      List.nil_append]

theorem runPre_flatten (q : Query) (s : Src) (cv : List String)
    (parts : List (List PRow)) (h : parts.Pairwise (KeySep (sliceKey q))) :
    runPre x q s cv parts.flatten = (parts.map (runPre x q s cv)).flatten := by
  induction parts with
  | nil => simp [runPre, dedup]
  | cons A rest ih =>
    obtain ⟨h1, h2⟩ := List.pairwise_cons.mp h
    simp only [List.flatten_cons, List.map_cons]
    rw [runPre_append x q s cv A rest.flatten, ih h2]
    intro a ha b hb
    obtain ⟨B, hB, hbB⟩ := List.mem_flatten.mp hb
    exact h1 B hB a ha b hbB

theorem mkRow_key {x : Ext} {q : Query} {cv : List String} {g : DKey × Int}
    {stf : Ex → Option String → List Cell} {r : FlatRow} (h : mkRow x q cv g stf = some r) :
    r.key = g.1 := by
  simp only [mkRow] at h
  split at h
  · cases h
  · split at h
    · cases h; rfl
    · split at h
      · cases h; rfl
      · cases h

theorem runPre_key {x : Ext} {q : Query} {s : Src} {cv : List String} {rows : List PRow}
    {r : FlatRow} (h : r ∈ runPre x q s cv rows) : ∃ a ∈ rows, r.key = sliceKey q a.key := by
  simp only [runPre, List.mem_filterMap] at h
  obtain ⟨g, hg, hr⟩ := h
  obtain ⟨a, ha, rfl⟩ := List.mem_map.mp ((mem_dedup g _).mp hg)
  exact ⟨a, (List.mem_filter.mp ha).1, mkRow_key hr⟩

theorem runPre_flatten_sep (q : Query) (s : Src) (cv : List String) (κ : DKey → DKey)
    (parts : List (List PRow)) (hsep : parts.Pairwise (KeySep (fun k => κ (sliceKey q k)))) :
    runPre x q s cv parts.flatten = (parts.map (runPre x q s cv)).flatten ∧
    (parts.map (fun p => toPRows (runPre x q s cv p))).Pairwise (KeySep κ) := by
  refine ⟨runPre_flatten x q s cv parts (hsep.imp fun hAB a ha b hb e => hAB a ha b hb (congrArg κ e)),
    List.pairwise_map.mpr (hsep.imp ?_)⟩
  intro A B hAB a ha b hb
  obtain ⟨ra, hra, rfl⟩ := List.mem_map.mp ha
  obtain ⟨rb, hrb, rfl⟩ := List.mem_map.mp hb
  obtain ⟨a', ha', hka⟩ := runPre_key hra
  obtain ⟨b', hb', hkb⟩ := runPre_key hrb
  simp only [hka, hkb]
  exact hAB a' ha' b' hb'

theorem cvOf_noCtab {q : Query} (h : q.ctab = none) (s : Src) (rows : List PRow) : cvOf q s rows = [] := by
  simp [cvOf, ctabValues, h]

theorem runTree_olo (t : QTree) (s : Src) (rows : List PRow) :
    runTree x t s rows = olo t.top.olo (runTreePre x t s rows) := by
  cases t <;> rfl

theorem toPRows_flatten (ls : List (List FlatRow)) :
    toPRows ls.flatten = (ls.map toPRows).flatten := by
  unfold toPRows
  rw [List.map_flatten]

/-- the chain evaluated on a split whose parts never share an outermost group key is the
    concatenation of the chain evaluated on each part, and the results stay separated -/
theorem runTreePre_flatten (s : Src) (parts : List (List PRow)) (t : QTree) :
    ∀ (κ : DKey → DKey), Plain t →
      parts.Pairwise (KeySep (fun k => κ (chainKey t k))) →
      runTreePre x t s parts.flatten = (parts.map (runTreePre x t s)).flatten ∧
      (parts.map (fun p => toPRows (runTreePre x t s p))).Pairwise (KeySep κ) := by
  induction t with
  | table q =>
    intro κ hc hsep
    have e : runTreePre x (.table q) s = runPre x q s [] :=
      funext fun rows => by rw [runTreePre, cvOf_noCtab hc]
    rw [e]
    exact runPre_flatten_sep x q s [] κ parts hsep
  | sub q inner ih =>
    intro κ hc hsep
    have e : runTreePre x (.sub q inner) s =
        fun rows => runPre x q (inner.outSrc s) [] (toPRows (runTreePre x inner s rows)) :=
      funext fun rows => by rw [runTreePre, runTree_olo, olo_empty hc.2.1, cvOf_noCtab hc.1]
    obtain ⟨ihEq, ihSep⟩ := ih (fun k => κ (sliceKey q k)) hc.2.2 hsep
    have := runPre_flatten_sep x q (inner.outSrc s) [] κ _ ihSep
    simp only [List.map_map, Function.comp_def] at this
    simp only [e, ihEq, toPRows_flatten, List.map_map, Function.comp_def]
    exact this

/-- rows in different parts are routed differently -/
def Routed (p : PRow → Nat) (parts : List (List PRow)) : Prop :=
  parts.Pairwise (fun A B => ∀ a ∈ A, ∀ b ∈ B, p a ≠ p b)

theorem splitBy_routed (p : PRow → Nat) (n : Nat) (rows : List PRow) :
    Routed p (splitBy p n rows) := by
  simp only [Routed, splitBy, List.pairwise_map]
  refine (List.pairwise_lt_range (n := n)).imp ?_
  intro i j hij a ha b hb e
  have h1 : p a = i := by simpa using (List.mem_filter.mp ha).2
  have h2 : p b = j := by simpa using (List.mem_filter.mp hb).2
  omega

/-- the parts of `splitBy` together hold exactly the rows (as a multiset) -/
theorem splitBy_perm (p : PRow → Nat) (n : Nat) (rows : List PRow) (h : ∀ r ∈ rows, p r < n) :
    (splitBy p n rows).flatten.Perm rows := by
  have h1 := flatMap_filter_perm p (List.range n) List.nodup_range rows
  rwa [List.filter_eq_self.mpr fun a ha => by simpa using h a ha, List.flatMap_def] at h1

theorem runTree_withOlo (t : QTree) (o : OLO) (s : Src) (rows : List PRow) :
    runTree x (withOlo t o) s rows = olo o (runTreePre x t s rows) := by
  cases t <;> rfl

theorem clusterRun_pushdown (pk : List String) (parts : List (List PRow)) (t : QTree) (s : Src)
    (hp : pushdownAllowed pk t = true) :
    clusterRun x pk parts t s =
      olo t.top.olo ((parts.map (runTreePre x t s)).flatMap (olo (partOlo t.top.olo))) := by
  rw [List.flatMap_map]
  cases t <;> simp only [clusterRun, hp, if_true, QTree.top] <;> rfl

/-! ### IN-subqueries: `Opts.IsSubQuery` does not change the pushdown decision -/

theorem asSub_top (t : QTree) : (asSub t).top = asSubQ t.top := by
  cases t <;> rfl

theorem pushdownWalk_asSub (pk : List String) :
    ∀ (t : QTree) (all : Bool) (P : List String),
      pushdownWalk pk all P (asSub t) = pushdownWalk pk all P t := by
  intro t
  induction t with
  | table q => intro all P; rfl
  | sub q inner ih =>
    intro all P
    simp only [asSub, pushdownWalk, asSubQ, ih]

theorem subsClean_asSub : ∀ (t : QTree), subsClean (asSub t) = subsClean t := by
  intro t
  induction t with
  | table q => rfl
  | sub q inner ih =>
    simp only [asSub, subsClean, ih, asSub_top]
    rfl

theorem lookup_filter_names (names : List String) (n : String) (hn : n ∈ names) (k : DKey) :
    List.lookup n (k.filter (fun p => names.contains p.1)) = List.lookup n k := by
  induction k with
  | nil => rfl
  | cons p k ih =>
    obtain ⟨a, v⟩ := p
    by_cases hc : names.contains a = true
    · simp only [List.filter_cons, hc, if_true, List.lookup_cons]
      cases n == a
      · exact ih
      · rfl
    · have hne : (n == a) = false := by
        have : n ≠ a := fun e => hc (by simpa [e] using hn)
        simpa using this
      simp only [List.filter_cons, hc, Bool.false_eq_true, if_false, List.lookup_cons, hne, ih]

/-- when the table keeps the partition keys the partition of a point is the partition of its
    stored row key -/
theorem pkProj_storedKey (tgb pk : List String) (h : partitionKeysKept tgb pk = true) (k : DKey) :
    pkProj pk (storedKey tgb k) = pkProj pk k := by
  unfold partitionKeysKept at h
  unfold storedKey
  by_cases he : tgb.isEmpty = true
  · simp [he]
  · simp only [he, Bool.false_or, Bool.and_eq_true, Bool.not_eq_true', List.all_eq_true] at h
    simp only [he, Bool.false_eq_true, if_false, pkProj, h.1]
    refine filterMap_congr fun n hn => ?_
    simp only [DKey.get, lookup_filter_names tgb n (by simpa using h.2 n hn) k]

end Zeno.PlanLemmas
