/-
Derived selected expressions: the cell column of a derived selected expression in
`groupRows`.  For one scan row, `colStep` (every scanned column that has a sub-merger is sub-merged
in) is the successive direct `SubMerge` of the scanned columns mapped into the state space of the
selected expression; over all member rows the cell column is `subMergeAll` of these sources, hence
(by the direct-case theorem) its state at an out period is their merge over the bucket's periods.
-/
import ZenoModel.Lemmas.DerivedApply
import ZenoModel.Lemmas.DerivedSub
namespace Zeno

-- about lists in general
theorem zip3_eq_range_map {α β γ : Type} (A : List α) (B : List β) (C : List γ) (n : Nat)
    (ha : A.length = n) (hb : B.length = n) (hc : n ≤ C.length) (a0 : α) (b0 : β) (c0 : γ) :
    (A.zip B).zip C = (List.range n).map (fun j => ((A.getD j a0, B.getD j b0), C.getD j c0)) := by
  apply List.ext_getElem
  · simp [ha, hb]; omega
  · intro i h1 h2
    have hi : i < n := by simpa using h2
    simp [List.getD_eq_getElem?_getD, ha, hb, hi, Nat.lt_of_lt_of_le hi hc]

/-- the state of `e` with column `j`'s state `o` in the slots that resolve to column `j` -/
def colImage (e : Ex) (subs : List Ex) (j : Nat) (p : Pt) (o : List Cell) : List Cell :=
  e.assemble subs p (singleCol subs j o)

theorem colImage_wf (e : Ex) {subs : List Ex} {j : Nat} {cj : Ex} (hj : subs[j]? = some cj) (p : Pt)
    {o : List Cell} (ho : WF cj o) : WF e (colImage e subs j p o) :=
  assemble_single_wf subs p j o (by simpa [hj] using ho) e

theorem assemble_empties (subs : List Ex) (p : Pt) :
    ∀ e : Ex, e.assemble subs p (fun i => (subs.getD i (.const 0)).empty) = e.empty :=
  assemble_eq_empty subs p _ fun _ i s _ hs => by rw [getD_of_getElem? hs]

theorem colImage_empty (e : Ex) {subs : List Ex} {j : Nat} {cj : Ex} (hj : subs[j]? = some cj) (p : Pt) :
    colImage e subs j p cj.empty = e.empty := by
  refine assemble_eq_empty subs p _ (fun _ i s _ hs => ?_) e
  by_cases h : i = j
  · subst h
    rw [singleCol_self, Option.some.inj (hj.symm.trans hs)]
  · exact singleCol_ne h hs _

theorem colSM_actsAs {e : Ex} (hv : e.valid = true) (hp : e.noPtile = true) (hs : e.shiftFree = true)
    {subs : List Ex} {j : Nat} {cj : Ex} (hj : subs[j]? = some cj) {sm : SM} (hsm : colSM e subs j = some sm)
    (otherRes : Int) (p : Pt) : ActsAs e cj sm (colImage e subs j p) otherRes p := by
  intro d o os hd ho
  have := sem_apply_lem hv hp hs subs j cj hj p d o [] os otherRes hd ho
  simpa only [hsm, applyOpt, List.append_nil, colImage] using this

theorem colImage_none {e : Ex} (hv : e.valid = true) (hp : e.noPtile = true) (hs : e.shiftFree = true)
    {subs : List Ex} {j : Nat} {cj : Ex} (hj : subs[j]? = some cj) (hsm : colSM e subs j = none)
    (p : Pt) {o : List Cell} (ho : WF cj o) : colImage e subs j p o = e.empty := by
  have := sem_apply_lem hv hp hs subs j cj hj p e.empty o [] [] 1 (wf_empty e) ho
  simp only [hsm, applyOpt, List.append_nil] at this
  rw [this, ← colImage, mrg_empty_left hv hp (colImage_wf e hj p ho)]

/-- column `j` of a scan row as a source of the selected expression `e` (none: no closure) -/
def colSrc (e : Ex) (subs : List Ex) (p : Pt) (rcols : List Sq) (j : Nat) : Option Src :=
  (colSM e subs j).map (fun _ => (mapSq (colImage e subs j p) (rcols.getD j none), p))

/-- the sources one scan row contributes to the output column of `e` -/
def rowSrcs (e : Ex) (subs : List Ex) (p : Pt) (rcols : List Sq) : List Src :=
  (List.range subs.length).filterMap (colSrc e subs p rcols)

/-- what a scan row must provide: one stored sequence per scanned column, on the table grid, with
    well-formed states of the column's expression -/
def RowColsOk (subs : List Ex) (otherRes : Int) (rcols : List Sq) : Prop :=
  subs.length ≤ rcols.length ∧
    ∀ j cj, subs[j]? = some cj → SqOk otherRes (rcols.getD j none) ∧ SqWF cj (rcols.getD j none)

theorem colSrc_ok (e : Ex) {subs : List Ex} {otherRes : Int} (p : Pt) {rcols : List Sq}
    (hc : RowColsOk subs otherRes rcols) {j : Nat} {cj : Ex} (hj : subs[j]? = some cj) :
    SqOk otherRes (mapSq (colImage e subs j p) (rcols.getD j none)) ∧
      SqWF e (mapSq (colImage e subs j p) (rcols.getD j none)) :=
  ⟨sqOk_mapSq _ (hc.2 j cj hj).1, sqWF_mapSq _ (fun _ ho => colImage_wf e hj p ho) (hc.2 j cj hj).2⟩

theorem rowSrcs_ok {e : Ex} {subs : List Ex} {otherRes : Int} (p : Pt) {rcols : List Sq}
    (hc : RowColsOk subs otherRes rcols) :
    ∀ op ∈ rowSrcs e subs p rcols, SqOk otherRes op.1 ∧ SqWF e op.1 := by
  intro op hop
  obtain ⟨j, hj, hjo⟩ := List.mem_filterMap.mp hop
  obtain ⟨sm, _, rfl⟩ := Option.map_eq_some_iff.mp hjo
  exact colSrc_ok e p hc (List.getElem?_eq_getElem (List.mem_range.mp hj))

theorem colFold_eq {e : Ex} (hv : e.valid = true) (hp : e.noPtile = true) (hs : e.shiftFree = true)
    {res otherRes : Int} {k : Nat} {asOf hi : Int} (w : SMWindow res otherRes k asOf hi) (subs : List Ex)
    (p : Pt) (rcols : List Sq) (hc : RowColsOk subs otherRes rcols) (c : Sq) (hg : RecvGrid e res hi c)
    (hin : InWindow e res asOf hi c) :
    (List.range subs.length).foldl (fun acc j => match colSM e subs j with
        | none => acc
        | some sm => Sq.subMerge e (subs.getD j (.const 0)) sm res otherRes acc (rcols.getD j none) p asOf hi 0) c =
      subMergeAll e res otherRes asOf hi (rowSrcs e subs p rcols) c := by
  unfold subMergeAll rowSrcs
  rw [List.foldl_filterMap]
  refine foldl_congr_on _ _ (fun c => RecvGrid e res hi c ∧ InWindow e res asOf hi c) _ c ⟨hg, hin⟩ ?_
  rintro c ⟨hg, hin⟩ j hj
  have hsj := List.getElem?_eq_getElem (List.mem_range.mp hj)
  simp only [colSrc]
  cases hsm : colSM e subs j with
  | none => exact ⟨rfl, hg, hin⟩
  | some sm =>
    obtain ⟨h1, h2⟩ := colSrc_ok e p hc hsj
    refine ⟨?_, subMerge_inv_lem hv hp (shiftFree_shiftOf hs) w c _ p h1 h2 hg hin⟩
    rw [getD_of_getElem? hsj]
    exact subMerge_reduce hv hp (shiftFree_shiftOf hs) sm _ otherRes p (colSM_actsAs hv hp hs hsj hsm otherRes p)
      (fun _ ho => colImage_wf e hsj p ho) w.resPos w.otherResPos c _ asOf hg (hc.2 j _ hsj).2

theorem colStep_range (f : Field) (inFields : List Field) (gRes otherRes gAsOf gUntil stride : Int) (pt : Pt)
    (c : Sq) (rcols : List Sq) (hl : inFields.length ≤ rcols.length) :
    colStep f (dedupInputs (inFields.map (·.ex)) (f.ex.subMergers (inFields.map (·.ex)))) inFields gRes otherRes
        gAsOf gUntil stride pt c rcols =
      (List.range (inFields.map (·.ex)).length).foldl (fun acc j =>
        match colSM f.ex (inFields.map (·.ex)) j with
        | none => acc
        | some sm => Sq.subMerge f.ex ((inFields.map (·.ex)).getD j (.const 0)) sm gRes otherRes acc
            (rcols.getD j none) pt gAsOf gUntil stride) c := by
  unfold colStep
  rw [zip3_eq_range_map _ inFields rcols inFields.length
    (by rw [length_dedupInputs, length_subMergers]; simp) rfl hl none default none, List.foldl_map]
  simp only [List.length_map]
  apply foldl_congr_mem
  intro acc j hj
  have hjl : j < inFields.length := List.mem_range.mp hj
  have : (inFields.getD j default).ex = (inFields.map (·.ex)).getD j (.const 0) := by
    simp only [List.getD_eq_getElem?_getD, List.getElem?_map, List.getElem?_eq_getElem hjl]; rfl
  simp only [this]
  rfl

/-- all sources of the output column of `e` for the group `k`: member row by member row, scanned
    column by scanned column -/
def derivedSrcs (e : Ex) (subs : List Ex) (q : Query) (metas : List KeyMeta) (rows : List Row) (k : Key) : List Src :=
  (groupMembers q rows k).flatMap (fun r => rowSrcs e subs (rowPt metas r) r.cols)

/-- the side conditions for a derived selected field `f` (`i`-th of the query) -/
structure DerivedCell (cfg : TableCfg) (now : Int) (q : Query) (pl : Plan) (inFields : List Field)
    (rows : List Row) (kk : Nat) (i : Nat) (f : Field) : Prop where
  noStride : pl.strideSlice = 0
  window : SMWindow (gResOf cfg pl) cfg.res kk (gAsOfOf cfg now pl) (gUntilOf cfg now pl)
  outField : q.outFields[i]? = some f
  valid : f.ex.valid = true
  noPtile : f.ex.noPtile = true
  shiftFree : f.ex.shiftFree = true
  /-- every scan row has one stored sequence per scanned field -/
  scan : ∀ r ∈ rows, RowColsOk (inFields.map (·.ex)) cfg.res r.cols

theorem DerivedCell.noShift {cfg : TableCfg} {now : Int} {q : Query} {pl : Plan} {inFields : List Field}
    {rows : List Row} {kk i : Nat} {f : Field} (H : DerivedCell cfg now q pl inFields rows kk i f) :
    f.ex.shiftOf = 0 := shiftFree_shiftOf H.shiftFree

/-- the cell column is the successive direct `SubMerge` of all sources -/
theorem groupCell_derived {cfg : TableCfg} {now : Int} {q : Query} {pl : Plan} {inFields : List Field}
    {rows : List Row} {kk i : Nat} {f : Field} (H : DerivedCell cfg now q pl inFields rows kk i f)
    (metas : List KeyMeta) (k : Key) :
    groupCell cfg now q pl inFields metas rows k i =
      subMergeAll f.ex (gResOf cfg pl) cfg.res (gAsOfOf cfg now pl) (gUntilOf cfg now pl)
        (derivedSrcs f.ex (inFields.map (·.ex)) q metas rows k) none := by
  rw [groupCell_colStep cfg now q pl inFields metas rows k H.outField]
  unfold derivedSrcs subMergeAll
  rw [List.foldl_flatMap]
  refine foldl_congr_on _ _ (fun c => RecvGrid f.ex (gResOf cfg pl) (gUntilOf cfg now pl) c ∧
    InWindow f.ex (gResOf cfg pl) (gAsOfOf cfg now pl) (gUntilOf cfg now pl) c) _ none ⟨trivial, fun _ _ => rfl⟩ ?_
  rintro c ⟨hg, hin⟩ r hr
  have hr := H.scan r (List.mem_filter.mp hr).1
  rw [colStep_range f inFields _ _ _ _ _ _ c r.cols (by simpa using hr.1), H.noStride]
  exact ⟨colFold_eq H.valid H.noPtile H.shiftFree H.window _ _ r.cols hr c hg hin,
    (sem_subMergeAll_lem H.valid H.noPtile H.noShift H.window _ c
      (rowSrcs_ok (rowPt metas r) hr) hg hin).1⟩

theorem derivedSrcs_ok {cfg : TableCfg} {now : Int} {q : Query} {pl : Plan} {inFields : List Field}
    {rows : List Row} {kk i : Nat} {f : Field} (H : DerivedCell cfg now q pl inFields rows kk i f)
    (metas : List KeyMeta) (k : Key) :
    ∀ op ∈ derivedSrcs f.ex (inFields.map (·.ex)) q metas rows k, SqOk cfg.res op.1 ∧ SqWF f.ex op.1 := by
  intro op hop
  unfold derivedSrcs at hop
  obtain ⟨r, hr, hop'⟩ := List.mem_flatMap.mp hop
  exact rowSrcs_ok (rowPt metas r) (H.scan r (List.mem_filter.mp hr).1) op hop'

/-- the cell's state at an out period is the merge of all sources over the bucket's periods -/
theorem sem_groupRows_derived_lem {cfg : TableCfg} {now : Int} {q : Query} {pl : Plan} {inFields : List Field}
    {rows : List Row} {kk i : Nat} {f : Field} (H : DerivedCell cfg now q pl inFields rows kk i f)
    (metas : List KeyMeta) (k : Key) (T : Int) (hT : (gUntilOf cfg now pl - T) % gResOf cfg pl = 0) :
    (groupCell cfg now q pl inFields metas rows k i).at f.ex (gResOf cfg pl) T =
      if gAsOfOf cfg now pl < T ∧ T ≤ gUntilOf cfg now pl
      then mergeAllOnto f.ex cfg.res (derivedSrcs f.ex (inFields.map (·.ex)) q metas rows k)
        (bucketTimes cfg.res kk (gAsOfOf cfg now pl) (gUntilOf cfg now pl) T) f.ex.empty
      else f.ex.empty := by
  rw [groupCell_derived H metas k]
  have h := (sem_subMergeAll_lem H.valid H.noPtile H.noShift H.window _ none
    (derivedSrcs_ok H metas k) trivial (fun _ _ => rfl)).2 T hT
  rw [h, at_none]

theorem groupCell_derived_inv {cfg : TableCfg} {now : Int} {q : Query} {pl : Plan} {inFields : List Field}
    {rows : List Row} {kk i : Nat} {f : Field} (H : DerivedCell cfg now q pl inFields rows kk i f)
    (metas : List KeyMeta) (k : Key) :
    RecvGrid f.ex (gResOf cfg pl) (gUntilOf cfg now pl) (groupCell cfg now q pl inFields metas rows k i) ∧
    InWindow f.ex (gResOf cfg pl) (gAsOfOf cfg now pl) (gUntilOf cfg now pl)
      (groupCell cfg now q pl inFields metas rows k i) := by
  rw [groupCell_derived H metas k]
  exact (sem_subMergeAll_lem H.valid H.noPtile H.noShift H.window _ none
    (derivedSrcs_ok H metas k) trivial (fun _ _ => rfl)).1

end Zeno
