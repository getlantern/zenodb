/-
`Sequence.SubMerge` (encoding/seq.go) after its two truncations, for a sub-merger that merges the
source state into the receiver's (`e.Merge(data, data, other)`): the loop read as a fold over the
`k` slots of one output bucket, the two growth steps (prepend / append empty periods) that leave
the semantic view `Sq.at` unchanged, and the resulting view of `smBody`.
-/
import ZenoModel.Lemmas.SubMergeLoop
import ZenoModel.Lemmas.SeqMerge
namespace Zeno

/-- a direct sub-merger on well-formed states is the expression's merge, whatever follows them -/
theorem apply_direct_rest {n : Ex} (hv : n.valid = true) (hp : n.noPtile = true) {d o : List Cell}
    (hd : WF n d) (ho : WF n o) (rest : List Cell) (os : List (List Cell)) (otherRes : Int) (p : Pt) :
    (SM.direct n).apply (d ++ rest) (o :: os) otherRes p = n.mrg d o ++ rest := by
  have h := merge_eq hv hp hd ho rest []
  simp only [List.append_nil] at h
  have hl : (n.mrg d o).length = d.length := by
    rw [(mrg_wf hv hp hd ho).length, hd.length]
  simp only [SM.apply, List.headD_cons, h]
  rw [hl, List.drop_left]

theorem apply_direct {e : Ex} (hv : e.valid = true) (hp : e.noPtile = true) {d o : List Cell}
    (hd : WF e d) (ho : WF e o) (os : List (List Cell)) (otherRes : Int) (p : Pt) :
    (SM.direct e).apply d (o :: os) otherRes p = e.mrg d o := by
  simpa using apply_direct_rest hv hp hd ho [] os otherRes p

/-- folding merges of empty states changes nothing -/
theorem foldl_mrg_empty {α : Type} {e : Ex} (hv : e.valid = true) (hp : e.noPtile = true)
    (c : α → List Cell) (l : List α) (acc : List Cell) (hw : WF e acc) (hc : ∀ j ∈ l, c j = e.empty) :
    l.foldl (fun a j => e.mrg a (c j)) acc = acc :=
  foldl_fixed _ acc l (fun j hj => by rw [hc j hj, mrg_empty_right hv hp hw])

theorem foldl_mrg_congr {α : Type} (e : Ex) (c c' : α → List Cell) (l : List α) (acc : List Cell)
    (h : ∀ j ∈ l, c j = c' j) :
    l.foldl (fun a j => e.mrg a (c j)) acc = l.foldl (fun a j => e.mrg a (c' j)) acc :=
  foldl_congr_mem _ _ l acc (fun a j hj => by rw [h j hj])

theorem foldl_mrg_wf {α : Type} {e : Ex} (hv : e.valid = true) (hp : e.noPtile = true)
    (c : α → List Cell) (hc : ∀ j, WF e (c j)) (l : List α) (acc : List Cell) (hw : WF e acc) :
    WF e (l.foldl (fun a j => e.mrg a (c j)) acc) :=
  List.foldlRecOn l _ hw (fun _ ha j _ => mrg_wf hv hp ha (hc j))

/-- the state at a (possibly negative or too large) period index; empty outside -/
def cellAtI (e : Ex) (os : List (List Cell)) (i : Int) : List Cell :=
  if i < 0 then e.empty else os.getD i.toNat e.empty

theorem cellAtI_neg (e : Ex) (os : List (List Cell)) {i : Int} (h : i < 0) : cellAtI e os i = e.empty :=
  if_pos h

theorem cellAtI_cons (e : Ex) (o : List Cell) (os : List (List Cell)) (i : Int) :
    cellAtI e (o :: os) i = if i = 0 then o else cellAtI e os (i - 1) := by
  unfold cellAtI
  by_cases h0 : i < 0
  · rw [if_pos h0, if_neg (by omega), if_pos (by omega)]
  · rw [if_neg h0]
    by_cases h1 : i = 0
    · subst h1; simp
    · rw [if_neg h1, if_neg (by omega)]
      have : i.toNat = (i - 1).toNat + 1 := by omega
      rw [this, List.getD_cons_succ]

theorem cellAtI_nil (e : Ex) (i : Int) : cellAtI e [] i = e.empty := by
  unfold cellAtI; split <;> simp

theorem cellAtI_wf {e : Ex} {os : List (List Cell)} (h : CellsWF e os) (i : Int) : WF e (cellAtI e os i) := by
  unfold cellAtI
  split
  · exact wf_empty e
  · exact getD_wf h _

/-- a new newest source period `o` lands in slot `d` of the bucket: merging it first is the same,
    because the slots before `d` are empty -/
theorem foldl_slot_cons {e : Ex} (hv : e.valid = true) (hp : e.noPtile = true) {k d : Nat} (hd : d < k)
    (o : List Cell) (os : List (List Cell)) {acc : List Cell} (hw : WF e acc) (ho : WF e o) :
    (List.range k).foldl (fun a (j : Nat) => e.mrg a (cellAtI e os ((j : Int) - ((d : Int) + 1)))) (e.mrg acc o) =
      (List.range k).foldl (fun a (j : Nat) => e.mrg a (cellAtI e (o :: os) ((j : Int) - (d : Int)))) acc := by
  obtain ⟨m, rfl⟩ : ∃ m, k = d + (m + 1) := ⟨k - d - 1, by omega⟩
  have hwo : WF e (e.mrg acc o) := mrg_wf hv hp hw ho
  have hlt : ∀ j ∈ List.range' 0 d, j < d := fun j hj => by
    have := List.mem_range'_1.mp hj
    omega
  rw [List.range_eq_range', ← List.range'_append_1, Nat.zero_add, List.range'_succ, List.foldl_append,
    List.foldl_append, List.foldl_cons, List.foldl_cons,
    foldl_mrg_empty hv hp _ _ _ hwo (fun j hj => cellAtI_neg e os (by have := hlt j hj; omega)),
    foldl_mrg_empty hv hp _ _ _ hw (fun j hj => cellAtI_neg e _ (by have := hlt j hj; omega)),
    cellAtI_neg e os (by omega), mrg_empty_right hv hp hwo, cellAtI_cons, if_pos (by omega)]
  refine foldl_mrg_congr e _ _ _ _ (fun j hj => ?_)
  have := List.mem_range'_1.mp hj
  rw [cellAtI_cons, if_neg (by omega)]
  congr 1
  omega

/-- The loop for the direct sub-merger: result period `q` receives, in source order, the merge of the `k`
    slots of its bucket; slot `j` is the source period with index `j − (po + off − q·k)` relative
    to the current position (empty when that period does not exist) -/
theorem loopSpec_direct {e : Ex} (hv : e.valid = true) (hp : e.noPtile = true) (otherRes : Int) (p : Pt)
    {k : Nat} (hk : 0 < k) (off : Int) (q : Nat) :
    ∀ (os : List (List Cell)) (po : Nat) (acc : List Cell), CellsWF e os → WF e acc →
      loopSpec (.direct e) otherRes p (k : Int) off q po os acc =
        (List.range k).foldl
          (fun a (j : Nat) => e.mrg a (cellAtI e os ((j : Int) - ((po : Int) + off - (q : Int) * (k : Int))))) acc := by
  intro os
  induction os with
  | nil =>
    intro po acc _ hw
    exact (foldl_mrg_empty hv hp _ _ _ hw (fun j _ => cellAtI_nil e _)).symm
  | cons o os ih =>
    intro po acc hos hw
    have ho : WF e o := hos o (by simp)
    have hos' : CellsWF e os := fun c hc => hos c (by simp [hc])
    simp only [loopSpec]
    -- `d`: the slot of the current source period in the bucket of `q`, if it is one of `0 … k−1`
    generalize hd : (po : Int) + off - (q : Int) * (k : Int) = d
    have hd' : ((po + 1 : Nat) : Int) + off - (q : Int) * (k : Int) = d + 1 := by omega
    have hblock := Int.ediv_eq_iff_of_pos (x := (po : Int) + off) (y := (q : Int)) (show (0 : Int) < (k : Int) by omega)
    by_cases hm : ((po : Int) + off) / (k : Int) = (q : Int)
    · rw [if_pos hm, apply_direct hv hp hw ho, ih (po + 1) _ hos' (mrg_wf hv hp hw ho), hd']
      have hb := hblock.mp hm
      obtain ⟨n, rfl⟩ := Int.eq_ofNat_of_zero_le (show 0 ≤ d by omega)
      exact foldl_slot_cons hv hp (by omega) o os hw ho
    · rw [if_neg hm, ih (po + 1) _ hos' hw, hd']
      refine foldl_mrg_congr e _ _ _ _ (fun j hj => ?_)
      have hj' : j < k := List.mem_range.mp hj
      rw [cellAtI_cons, if_neg (fun h0 => hm (hblock.mpr (by omega)))]
      congr 1
      omega

theorem cellsWF_subMergeLoop {e : Ex} (hv : e.valid = true) (hp : e.noPtile = true) (otherRes : Int) (p : Pt)
    (scale off ss ssp : Int) (n : Nat) (os : List (List Cell)) (po : Nat) (result : List (List Cell))
    (hos : CellsWF e os) (hw : CellsWF e result) :
    CellsWF e (subMergeLoop (.direct e) otherRes p scale off ss ssp n po os result) :=
  subMergeLoop_preserves (CellsWF e) _ otherRes p scale off ss ssp n os po result
    (fun r i o os' ho hr => cellsWF_modify hr i _ (fun c hc => by
      rw [apply_direct hv hp hc (hos o ho)]
      exact mrg_wf hv hp hc (hos o ho))) hw

/-- "prepend": make the (truncated) receiver reach up to `newUntil` -/
def smPrepend (e : Ex) (res newUntil : Int) (result : Sq) : Seq :=
  match result with
  | none => ⟨newUntil, [e.empty]⟩
  | some r =>
    if r.cells.length = 0 then ⟨newUntil, [e.empty]⟩
    else
      let n := (newUntil - r.hi).tdiv res
      if n > 0 then ⟨newUntil, List.replicate n.toNat e.empty ++ r.cells⟩ else r

/-- "append": make it reach down to the (rounded) asOf of the source -/
def smAppend (e : Ex) (res otherAsOf : Int) (r1 : Seq) : Seq :=
  let oldAsOf := roundUntilUp (Sq.asOf (some r1) res) res r1.hi
  let newAsOf := roundUntilDown otherAsOf res r1.hi
  let n := (oldAsOf - newAsOf).tdiv res
  if n > 0 then ⟨r1.hi, r1.cells ++ List.replicate n.toNat e.empty⟩ else r1

theorem appendV_eq (e : Ex) (res otherAsOf : Int) (r1 : Seq) :
    appendV e res otherAsOf r1.hi r1 = smAppend e res otherAsOf r1 := rfl

theorem prependV_eq (ex : Ex) (res nu : Int) (result : Sq) :
    prependV ex res nu result = (smPrepend ex res nu result, (smPrepend ex res nu result).hi) := by
  cases result with
  | none => rfl
  | some r =>
    by_cases hl : r.cells.length = 0
    · simp only [prependV, smPrepend, hl, if_true]
    · by_cases hp : (nu - r.hi).tdiv res > 0
      · simp only [prependV, smPrepend, Sq.until, hl, hp, if_true, if_false]
      · simp only [prependV, smPrepend, Sq.until, hl, hp, if_false]

theorem smPrepend_wf {e : Ex} (res nu : Int) (result : Sq) (hw : SqWF e result) :
    CellsWF e (smPrepend e res nu result).cells := by
  have hsingle : CellsWF e [e.empty] := cellsWF_replicate e 1
  cases result with
  | none => exact hsingle
  | some r =>
    simp only [smPrepend]
    split
    · exact hsingle
    · split
      · exact cellsWF_append (cellsWF_replicate e _) hw
      · exact hw

theorem smAppend_wf {e : Ex} (res otherAsOf : Int) (r1 : Seq) (hw : CellsWF e r1.cells) :
    CellsWF e (smAppend e res otherAsOf r1).cells := by
  unfold smAppend
  simp only
  split
  · exact cellsWF_append hw (cellsWF_replicate e _)
  · exact hw

theorem smPrepend_spec {e : Ex} {res : Int} (h : 0 < res) (nu : Int) (result : Sq)
    (hg : ∀ r, result = some r → (nu - r.hi) % res = 0) (hw : SqWF e result) :
    (∀ T, Sq.at (some (smPrepend e res nu result)) e res T = result.at e res T) ∧
      nu ≤ (smPrepend e res nu result).hi ∧ (nu - (smPrepend e res nu result).hi) % res = 0 ∧
      CellsWF e (smPrepend e res nu result).cells := by
  suffices hs : _ ∧ _ ∧ _ from ⟨hs.1, hs.2.1, hs.2.2, smPrepend_wf res nu result hw⟩
  cases result with
  | none => exact ⟨fun T => at_single_empty e res nu T, Int.le_refl _, by simp [smPrepend]⟩
  | some r =>
    simp only [smPrepend]
    have hgr := hg r rfl
    by_cases hl : r.cells.length = 0
    · obtain ⟨rhi, rc⟩ := r
      obtain rfl : rc = [] := List.eq_nil_of_length_eq_zero hl
      rw [if_pos hl]
      exact ⟨fun T => (at_single_empty e res nu T).trans (at_nil e res rhi T).symm, Int.le_refl _, by simp⟩
    · rw [if_neg hl]
      rcases grid_tdiv h hgr with ⟨hle, ht⟩ | ⟨n, hn0, hn, ht⟩
      · rw [if_neg (by omega)]
        exact ⟨fun T => rfl, hle, hgr⟩
      · rw [ht, if_pos (by omega), Int.toNat_natCast, show nu = r.hi + n * res by omega]
        exact ⟨fun T => at_prepend_empties e h r.hi r.cells n T, Int.le_refl _, by simp⟩

theorem smAppend_spec {e : Ex} {res : Int} (h : 0 < res) (otherAsOf : Int) (r1 : Seq)
    (h1 : r1.hi ≠ 0) (h2 : otherAsOf ≠ 0) (hw : CellsWF e r1.cells) :
    (∀ T, Sq.at (some (smAppend e res otherAsOf r1)) e res T = Sq.at (some r1) e res T) ∧
      (smAppend e res otherAsOf r1).hi = r1.hi ∧
      (smAppend e res otherAsOf r1).hi - ((smAppend e res otherAsOf r1).cells.length : Int) * res ≤ otherAsOf ∧
      CellsWF e (smAppend e res otherAsOf r1).cells := by
  suffices hs : _ ∧ _ ∧ _ from ⟨hs.1, hs.2.1, hs.2.2, smAppend_wf res otherAsOf r1 hw⟩
  obtain ⟨g, hle, _⟩ := roundUntilDown_bounds (t := otherAsOf) (hi := r1.hi) h h2
  -- the old asOf is already on the grid
  have hold : roundUntilUp (Sq.asOf (some r1) res) res r1.hi = r1.hi - (r1.cells.length : Int) * res :=
    roundUntilUp_aligned h1 (by simp only [Sq.asOf]; rw [Int.sub_sub_self]; exact Int.mul_emod_left _ _)
  unfold smAppend
  simp only [hold]
  generalize roundUntilDown otherAsOf res r1.hi = na at *
  have hm : (r1.hi - (r1.cells.length : Int) * res - na) % res = 0 := by
    rw [show r1.hi - (r1.cells.length : Int) * res - na = r1.hi - na - (r1.cells.length : Int) * res by omega,
      Int.sub_mul_emod_self_right]
    exact g
  rcases grid_tdiv h hm with ⟨_, ht⟩ | ⟨n, hn0, hn, ht⟩
  · rw [if_neg (by omega)]
    exact ⟨fun T => rfl, rfl, by omega⟩
  · rw [ht, if_pos (by omega), Int.toNat_natCast]
    refine ⟨fun T => at_append_empties e res r1.hi r1.cells n T, rfl, ?_⟩
    simp only [List.length_append, List.length_replicate]
    rw [natCast_add_mul]
    omega

/-- prepend, then append -/
theorem smFrame_spec {e : Ex} {res : Int} (hres : 0 < res) (result : Sq) (otherAsOf U hi : Int)
    (hU : 0 < U) (hoa : 0 < otherAsOf) (hwr : SqWF e result)
    (hgr : ∀ r, result = some r → (hi - r.hi) % res = 0) :
    let r2 := smAppend e res otherAsOf (smPrepend e res (roundUntilUp U res hi) result)
    (∀ T, Sq.at (some r2) e res T = result.at e res T) ∧
      r2.hi = (smPrepend e res (roundUntilUp U res hi) result).hi ∧ U ≤ r2.hi ∧ (hi - r2.hi) % res = 0 ∧
      r2.hi - (r2.cells.length : Int) * res ≤ otherAsOf ∧ CellsWF e r2.cells := by
  dsimp only
  obtain ⟨g1, g2, _⟩ := roundUntilUp_bounds (t := U) (hi := hi) hres (by omega)
  obtain ⟨pa, pb, pc, pd⟩ := smPrepend_spec (e := e) hres (roundUntilUp U res hi) result
    (fun r hr => grid_trans (grid_symm g1) (hgr r hr)) hwr
  generalize smPrepend e res (roundUntilUp U res hi) result = r1 at *
  obtain ⟨qa, qb, qc, qd⟩ := smAppend_spec (e := e) hres otherAsOf r1 (by omega) (by omega) pd
  refine ⟨fun T => (qa T).trans (pa T), qb, by omega, ?_, qc, qd⟩
  rw [qb]
  exact grid_trans g1 pc

/-- everything `SubMerge` does after the two truncations, for any sub-merger (no shift, no stride) -/
def smBodyG (e : Ex) (sm : SM) (res otherRes : Int) (result : Sq) (otherAsOf : Int) (o0 : Seq) (p : Pt) (hi : Int) : Seq :=
  let r1 := smPrepend e res (roundUntilUp o0.hi res hi) result
  let r2 := smAppend e res otherAsOf r1
  ⟨r2.hi, subMergeLoop sm otherRes p (res.tdiv otherRes) ((r1.hi - o0.hi).tdiv otherRes) 0
      ((0 : Int).tdiv otherRes) r2.cells.length 0 o0.cells r2.cells⟩

theorem subMerge_gen_eq (e oe : Ex) (sm : SM) (hs : e.shiftOf = 0) (res otherRes : Int) (s other : Sq) (p : Pt)
    (asOf hi : Int) :
    Sq.subMerge e oe sm res otherRes s other p asOf hi 0 =
      match other.truncate otherRes asOf hi with
      | none => s
      | some o0 =>
        if o0.cells.length = 0 then s
        else some (smBodyG e sm res otherRes (s.truncate res asOf hi)
          (if other.asOf otherRes < asOf then asOf else other.asOf otherRes) o0 p hi) := by
  rw [subMerge_eq, hs]
  simp only [growV, prependV_eq, appendV_eq, Int.neg_zero, Int.sub_zero, gt_iff_lt, Int.lt_irrefl, if_false]
  rfl

/-- `smBodyG` for the direct sub-merger -/
def smBody (e : Ex) (res otherRes : Int) (result : Sq) (otherAsOf : Int) (o0 : Seq) (p : Pt) (hi : Int) : Seq :=
  smBodyG e (.direct e) res otherRes result otherAsOf o0 p hi

theorem subMerge_direct_eq (e : Ex) (hs : e.shiftOf = 0) (res otherRes : Int) (s other : Sq) (p : Pt)
    (asOf hi : Int) :
    Sq.subMerge e e (.direct e) res otherRes s other p asOf hi 0 =
      match other.truncate otherRes asOf hi with
      | none => s
      | some o0 =>
        if o0.cells.length = 0 then s
        else some (smBody e res otherRes (s.truncate res asOf hi)
          (if other.asOf otherRes < asOf then asOf else other.asOf otherRes) o0 p hi) :=
  subMerge_gen_eq e e (.direct e) hs res otherRes s other p asOf hi

/-- index → time: the state at source index `i` is the state of the period ending at `U − i·r` -/
theorem cellAtI_at (e : Ex) {r : Int} (h : 0 < r) (U : Int) (cells : List (List Cell)) (i : Int) :
    cellAtI e cells i = Sq.at (some ⟨U, cells⟩) e r (U - i * r) := by
  unfold cellAtI
  split
  · have := Int.mul_neg_of_neg_of_pos ‹i < 0› h
    exact (at_off e (fun hc => by omega) _).symm
  · obtain ⟨n, rfl⟩ := Int.eq_ofNat_of_zero_le (Int.not_lt.mp ‹_›)
    exact (at_index e h (Int.sub_sub_self U _) cells).symm

theorem slot_offset_bounds {res otherRes : Int} {k j : Nat} (hr : 0 < otherRes) (hmul : res = (k : Int) * otherRes)
    (hj : j < k) : 0 ≤ (j : Int) * otherRes ∧ (j : Int) * otherRes < res := by
  rw [hmul]
  exact ⟨Int.mul_nonneg (by omega) (Int.le_of_lt hr), Int.mul_lt_mul_of_pos_right (by omega) hr⟩

/-- After the truncations, the result of `SubMerge` holds at every out period end `T`
    (on the grid anchored at `hi`) the receiver's state merged with the `k` source periods
    `T, T − otherRes, …, T − (k−1)·otherRes` of the truncated source, newest first. -/
theorem smBody_at {e : Ex} (hv : e.valid = true) (hp : e.noPtile = true) {res otherRes : Int} {k : Nat}
    (hr : 0 < otherRes) (hk : 0 < k) (hmul : res = (k : Int) * otherRes)
    (result : Sq) (otherAsOf : Int) (o0 : Seq) (p : Pt) (hi : Int)
    (hiAl : hi % otherRes = 0) (hU : 0 < o0.hi) (hUal : o0.hi % otherRes = 0)
    (hoa : 0 < otherAsOf) (hbelow : ∀ t, t ≤ otherAsOf → Sq.at (some o0) e otherRes t = e.empty)
    (hwo : CellsWF e o0.cells) (hwr : SqWF e result)
    (hgr : ∀ r, result = some r → (hi - r.hi) % res = 0) (T : Int) (hT : (hi - T) % res = 0) :
    Sq.at (some (smBody e res otherRes result otherAsOf o0 p hi)) e res T =
      (List.range k).foldl
        (fun a (j : Nat) => e.mrg a (Sq.at (some o0) e otherRes (T - (j : Int) * otherRes))) (result.at e res T) := by
  cases o0 with
  | mk U oc =>
  simp only at hU hUal hwo
  have hkI : (0 : Int) < (k : Int) := by omega
  have hres : 0 < res := by rw [hmul]; exact Int.mul_pos hkI hr
  obtain ⟨fa, fb, fc, fd, fe, ff⟩ := smFrame_spec (e := e) hres result otherAsOf U hi hU hoa hwr hgr
  simp only [smBody, smBodyG]
  rw [← fb, ← fa T]
  generalize smAppend e res otherAsOf (smPrepend e res (roundUntilUp U res hi) result) = r2 at *
  cases r2 with
  | mk R rc =>
  simp only at fc fd fe ff
  -- the offset of the source against the result, in source periods
  have hoffm : (R - U) % otherRes = 0 := by
    rw [hmul] at fd
    exact grid_trans (grid_symm (emod_of_mul _ fd)) (emod_sub_of hiAl hUal)
  obtain ⟨off, hoff⟩ := grid_index hr hoffm fc
  have hTg : (R - T) % res = 0 := grid_trans (grid_symm fd) hT
  rw [show res.tdiv otherRes = (k : Int) by rw [hmul]; exact mul_tdiv_self hr _, hoff, mul_tdiv_self hr]
  by_cases hle : T ≤ R
  · obtain ⟨q, hq⟩ := grid_index hres hTg hle
    rw [at_index e hres hq, at_index e hres hq]
    by_cases hql : q < rc.length
    · rw [subMergeLoop_spec e (.direct e) otherRes p hkI 0 _ (Int.le_refl 0) rc.length oc 0 rc q
          (by simp) rfl hql,
        loopSpec_direct hv hp otherRes p hk off q oc 0 _ hwo (getD_wf ff q)]
      refine foldl_mrg_congr e _ _ _ _ (fun j _ => ?_)
      rw [cellAtI_at e hr U]
      congr 1
      simp only [Int.sub_mul, Int.add_mul, Int.mul_assoc, ← hmul, Int.natCast_zero, Int.zero_mul]
      omega
    · -- below the result: the bucket lies at or below the source's asOf
      have hcast : (rc.length : Int) * res ≤ (q : Int) * res := (natCast_mul_le hres).mpr (Nat.le_of_not_lt hql)
      rw [getD_ge e _ q (by rw [length_subMergeLoop]; exact Nat.le_of_not_lt hql), getD_ge e rc q (by omega)]
      refine (foldl_mrg_empty hv hp _ _ _ (wf_empty e) (fun j hj => ?_)).symm
      have := slot_offset_bounds hr hmul (List.mem_range.mp hj)
      exact hbelow _ (by omega)
  · -- above the result: the bucket lies above the source's until
    rw [at_off e (fun hc => hle hc.2), at_off e (fun hc => hle hc.2)]
    have hgap := grid_gap (grid_symm hTg) (by omega)
    refine (foldl_mrg_empty hv hp _ _ _ (wf_empty e) (fun j hj => ?_)).symm
    have := slot_offset_bounds hr hmul (List.mem_range.mp hj)
    exact at_above e otherRes ⟨U, oc⟩ _ (show U < _ by omega)

/-- the result stays on the out grid anchored at `hi`, in positive time, with well-formed states -/
theorem smBody_inv {e : Ex} (hv : e.valid = true) (hp : e.noPtile = true) {res otherRes : Int}
    (hres : 0 < res) (result : Sq) (otherAsOf : Int) (o0 : Seq) (p : Pt) (hi : Int)
    (hU : 0 < o0.hi) (hoa : 0 < otherAsOf)
    (hwo : CellsWF e o0.cells) (hwr : SqWF e result)
    (hgr : ∀ r, result = some r → (hi - r.hi) % res = 0) :
    (hi - (smBody e res otherRes result otherAsOf o0 p hi).hi) % res = 0 ∧
      0 < (smBody e res otherRes result otherAsOf o0 p hi).hi ∧
      CellsWF e (smBody e res otherRes result otherAsOf o0 p hi).cells := by
  obtain ⟨_, _, fc, fd, _, ff⟩ := smFrame_spec (e := e) hres result otherAsOf o0.hi hi hU hoa hwr hgr
  exact ⟨fd, Int.lt_of_lt_of_le hU fc, cellsWF_subMergeLoop hv hp _ _ _ _ _ _ _ _ _ _ hwo ff⟩

end Zeno
