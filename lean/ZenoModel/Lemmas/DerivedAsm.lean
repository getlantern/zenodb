/-
Derived selected expressions: the assembled state and the closure `core.Group` uses.  A selected expression that is not itself a
table field (`a / b`, `IF(c, f)`, `f > 1`, the `_having` helper) keeps the concatenated states of its
sub-expressions; `Expr.SubMergers` builds, per table column, a closure that merges the column's
state into the slots of the sub-expressions that print like the column.  `Ex.assemble` is the
semantic reading of that wiring: the state of `e` obtained by putting the state `st i` of column `i`
into every slot of `e` that resolves to column `i` (gated by the IF conditions of the source row).
-/
import ZenoModel.Lemmas.SubMergeSemBody
namespace Zeno

/-- no SHIFT inside -/
def Ex.shiftFree : Ex → Bool
  | .field _ => true
  | .const _ => true
  | .agg _ w => w.shiftFree
  | .avg v w => v.shiftFree && w.shiftFree
  | .bin _ l r => l.shiftFree && r.shiftFree
  | .ifE _ w => w.shiftFree
  | .bounded w _ _ => w.shiftFree
  | .shift _ _ => false
  | .unary _ w => w.shiftFree
  | .ptile _ v p _ => v.shiftFree && p.shiftFree

/-- the table column a node resolves to: the FIRST column that prints like the node
    (`bytetree.New` clears the sub-mergers of later columns with the same print) -/
def Ex.matchIdx (n : Ex) (subs : List Ex) : Option Nat := subs.findIdx? (fun s => n.sameStr s)

/-- the state of `e` assembled from the columns' states `st`: column `i`'s state sits in every
    maximal sub-expression of `e` that resolves to column `i`; a sub-expression under an unresolved
    `IF(c, ·)` is filled only when the source row satisfies `c`; unresolved aggregates stay empty -/
def Ex.assemble (subs : List Ex) (p : Pt) (st : Nat → List Cell) : Ex → List Cell
  | .field _ => []
  | .const _ => []
  | .agg k w => match (Ex.agg k w).matchIdx subs with
      | some i => st i
      | none => (Ex.agg k w).empty
  | .avg v w => match (Ex.avg v w).matchIdx subs with
      | some i => st i
      | none => (Ex.avg v w).empty
  | .bin op l r => match (Ex.bin op l r).matchIdx subs with
      | some i => st i
      | none => l.assemble subs p st ++ r.assemble subs p st
  | .ifE c w => match (Ex.ifE c w).matchIdx subs with
      | some i => st i
      | none => if p.includes c then w.assemble subs p st else w.empty
  | .bounded w lo hi => match (Ex.bounded w lo hi).matchIdx subs with
      | some i => st i
      | none => w.assemble subs p st
  | .unary u w => match (Ex.unary u w).matchIdx subs with
      | some i => st i
      | none => w.assemble subs p st
  | .shift w off => (Ex.shift w off).empty
  | .ptile id v pe n => (Ex.ptile id v pe n).empty

/-- the columns' states with only column `j` filled (with `o`), all others empty -/
def singleCol (subs : List Ex) (j : Nat) (o : List Cell) : Nat → List Cell :=
  fun i => if i = j then o else (subs.getD i (.const 0)).empty

/-- run an optional sub-merger (`nil` closure: nothing happens) -/
def applyOpt (sm : Option SM) (d : List Cell) (other : List (List Cell)) (otherRes : Int) (p : Pt) : List Cell :=
  match sm with
  | none => d
  | some sm => sm.apply d other otherRes p

/-- the sub-merger `core.Group` uses for selected expression `e` and scanned column `j` -/
def colSM (e : Ex) (subs : List Ex) (j : Nat) : Option SM :=
  (dedupInputs subs (e.subMergers subs)).getD j none

end Zeno
