/-
Frame lemmas for the effect model (Model/SeqHeap.lean): for every effect function, where
its writes go and where its result lives.

One notion carries all of them: `WritesIn P ws` — every write of `ws` targets a buffer
satisfying `P`.  Operations that store into fresh memory only are stated with `P = (n ≤ ·)`,
those that also store into their receiver with `P = BufFrom n receiver`; loops, closures and
the stages of `SubMerge`, which are handed their destination, are stated for every `P` that
holds of the destination.

After `SubMerge`: the invariant of the query path (`QInv`: all that a query has written so far, and
the out tree's sequence, lie in buffers the query allocated; `queryColEff_inv`).  At the end: heaps
with contents (`Agrees`), and the equations of `copyData` and `Tree.Copy` (`copyColsEff_*`,
`treeCopyEff_*`) from which `C04.treeCopy_fresh` is proved.
-/
import ZenoModel.Model.SeqHeap

namespace Zeno

/-- where a result view can live relative to an operand slice: the operand's buffer
    (a re-slice or the operand itself) or a buffer that did not exist before (`≥ n`) -/
def ViewFrom (n : Nat) (opnd : Sl) (v : View) : Prop :=
  n ≤ v.buf ∨ ∃ o, opnd = some o ∧ v.buf = o.buf

/-- the same of a buffer id (`ViewFrom n opnd v` is `BufFrom n opnd v.buf`); the frame lemmas
    are stated with this one -/
def BufFrom (n : Nat) (opnd : Sl) (b : Nat) : Prop :=
  n ≤ b ∨ ∃ o, opnd = some o ∧ b = o.buf

/-- an operation on the result of an earlier operation (which started at a smaller heap) -/
theorem BufFrom.trans {n n' : Nat} {opnd opnd' : Sl} {b : Nat} (h : BufFrom n' opnd' b) (hn : n ≤ n')
    (ho : ∀ o, opnd' = some o → BufFrom n opnd o.buf) : BufFrom n opnd b := by
  rcases h with h | ⟨o, ho', rfl⟩
  · exact Or.inl (Nat.le_trans hn h)
  · exact ho o ho'

def WritesIn (P : Nat → Prop) (ws : List Write) : Prop := ∀ x ∈ ws, P x.buf

section
variable {P Q : Nat → Prop} {x : Write} {ws ws' : List Write}

@[simp] theorem writesIn_nil : WritesIn P [] := by
  simp [WritesIn]

@[simp] theorem writesIn_cons : WritesIn P (x :: ws) ↔ P x.buf ∧ WritesIn P ws :=
  List.forall_mem_cons

@[simp] theorem writesIn_append : WritesIn P (ws ++ ws') ↔ WritesIn P ws ∧ WritesIn P ws' :=
  List.forall_mem_append

theorem WritesIn.mono (h : WritesIn P ws) (hPQ : ∀ b, P b → Q b) : WritesIn Q ws :=
  fun x hx => hPQ _ (h x hx)

theorem WritesIn.of_fresh {n m : Nat} (h : WritesIn (m ≤ ·) ws) (hm : n ≤ m) (opnd : Sl) :
    WritesIn (BufFrom n opnd) ws :=
  h.mono fun _ hb => Or.inl (Nat.le_trans hm hb)

theorem WritesIn.ne_of_lt {n b : Nat} (h : WritesIn (n ≤ ·) ws) (hb : b < n) : ∀ x ∈ ws, x.buf ≠ b :=
  fun x hx => Nat.ne_of_gt (Nat.lt_of_lt_of_le hb (h x hx))

theorem WritesIn.ne_of_bufFrom {n b : Nat} {opnd : Sl} (h : WritesIn (BufFrom n opnd) ws) (hb : b < n)
    (hne : ∀ v, opnd = some v → v.buf ≠ b) : ∀ x ∈ ws, x.buf ≠ b := by
  intro x hx
  rcases h x hx with h1 | ⟨v, hv, hxb⟩
  · exact Nat.ne_of_gt (Nat.lt_of_lt_of_le hb h1)
  · exact hxb ▸ hne v hv

end

@[simp] theorem from_buf (v : View) (k : Nat) : (v.from k).buf = v.buf := rfl
@[simp] theorem upto_buf (v : View) (k : Nat) : (v.upto k).buf = v.buf := rfl
@[simp] theorem mk'_buf (n k : Nat) : (View.mk' n k).buf = n := rfl
@[simp] theorem copyW_buf (d s : View) : (copyW d s).buf = d.buf := rfl
@[simp] theorem setUntilW_buf (v : View) : (setUntilW v).buf = v.buf := rfl
@[simp] theorem updateAtW_buf (v : View) (p w : Nat) : (updateAtW v p w).buf = v.buf := rfl

theorem SV.len_of_view {s : SV} {v : View} (h : s.sl = some v) : s.len = v.len := by
  simp [SV.len, Sl.len, h]

/-- what every operation tests first: `len(seq) == 0`, or a view of positive length -/
theorem SV.len_cases (s : SV) : s.len = 0 ∨ ∃ v, s.sl = some v ∧ v.len ≠ 0 := by
  cases h : s.sl with
  | none => simp [SV.len, Sl.len, h]
  | some v =>
    rw [SV.len_of_view h]
    exact (Nat.eq_zero_or_pos v.len).imp_right fun hp => ⟨v, rfl, Nat.ne_of_gt hp⟩

theorem appendEff_in {P : Nat → Prop} {n : Nat} {dst : View} (hd : P dst.buf) (hn : P n) (src : View) :
    WritesIn P (appendEff n dst src).writes ∧ P (appendEff n dst src).v.buf := by
  unfold appendEff
  split
  · simp [hd]
  · simp [hn]

theorem truncateEff_of_empty {s : SV} (h : s.len = 0) (n w : Nat) (res asOf hi : Int) :
    truncateEff n s w res asOf hi = ⟨SV.nil, [], []⟩ := by
  unfold truncateEff
  split
  · rfl
  · rename_i v hv
    rw [if_pos (by rwa [SV.len_of_view hv] at h)]

theorem truncateEff_of_view {s : SV} {v : View} (hv : s.sl = some v) (hne : v.len ≠ 0) (n w : Nat)
    (res asOf hi : Int) :
    truncateEff n s w res asOf hi =
      match truncUntilEff n v s.hi w res (roundUntilDown hi res s.hi) with
      | none => ⟨SV.nil, [], []⟩
      | some r => truncAsOfEff r w res (roundUntilDown asOf res s.hi) := by
  simp only [truncateEff, hv, if_neg hne]
  rfl

theorem truncUntilEff_spec {n : Nat} {v : View} {oldUntil : Int} {w : Nat} {res hi : Int} {r : VE}
    (h : truncUntilEff n v oldUntil w res hi = some r) :
    (¬ (hi ≠ 0 ∧ (oldUntil - hi).tdiv res > 0) ∧ r = ⟨v, oldUntil, [], []⟩) ∨
    ((hi ≠ 0 ∧ (oldUntil - hi).tdiv res > 0) ∧
      r.v.buf = n ∧ r.v.off = 0 ∧ r.allocs = [r.v.len] ∧ WritesIn (n ≤ ·) r.writes) := by
  simp only [truncUntilEff] at h
  split at h
  · rename_i hne
    split at h
    · rename_i hcut
      split at h
      · cases h
      · cases h
        exact Or.inr ⟨⟨hne, hcut⟩, rfl, rfl, rfl, by simp⟩
    · rename_i hcut
      cases h
      exact Or.inl ⟨fun h => hcut h.2, rfl⟩
  · rename_i hne
    cases h
    exact Or.inl ⟨fun h => hne h.1, rfl⟩

theorem truncAsOfEff_spec (r : VE) (w : Nat) (res asOf : Int) :
    (truncAsOfEff r w res asOf).allocs = r.allocs ∧ (truncAsOfEff r w res asOf).writes = r.writes ∧
    ((truncAsOfEff r w res asOf).out.sl = none ∨
      ∃ k, k ≤ r.v.len ∧ (truncAsOfEff r w res asOf).out.sl = some (r.v.upto k)) := by
  have keep : ∃ k, k ≤ r.v.len ∧ some r.v = some (r.v.upto k) := ⟨_, Nat.le_refl _, rfl⟩
  simp only [truncAsOfEff]
  split
  · split
    · exact ⟨rfl, rfl, Or.inl rfl⟩
    · split
      · exact ⟨rfl, rfl, Or.inr keep⟩
      · exact ⟨rfl, rfl, Or.inr ⟨_, by omega, rfl⟩⟩
  · exact ⟨rfl, rfl, Or.inr keep⟩

/-- everything `Truncate` can do: no write outside fresh memory; the result is nil, or a prefix
    re-slice of the operand (then nothing was allocated or written), or lives in the fresh buffer
    `n`; the latter exactly when the rounded `until` bound cuts at least one period -/
theorem truncateEff_spec (n : Nat) (s : SV) (w : Nat) (res asOf hi : Int) :
    let e := truncateEff n s w res asOf hi
    let cut := roundUntilDown hi res s.hi ≠ 0 ∧ (s.hi - roundUntilDown hi res s.hi).tdiv res > 0
    WritesIn (n ≤ ·) e.writes ∧
    (e.out.sl = none ∨
     (∃ v v', s.sl = some v ∧ e.out.sl = some v' ∧ v'.buf = v.buf ∧ v'.off = v.off ∧ v'.len ≤ v.len ∧
        v'.cap = v.cap ∧ e.allocs = [] ∧ e.writes = [] ∧ ¬ cut) ∨
     (∃ v', e.out.sl = some v' ∧ v'.buf = n ∧ v'.off = 0 ∧ e.allocs.length = 1 ∧ cut)) := by
  dsimp only
  rcases s.len_cases with h0 | ⟨v, hv, hne⟩
  · rw [truncateEff_of_empty h0]
    exact ⟨writesIn_nil, Or.inl rfl⟩
  rw [truncateEff_of_view hv hne]
  split
  · exact ⟨writesIn_nil, Or.inl rfl⟩
  · rename_i r hr
    obtain ⟨hal, hwr, hout⟩ := truncAsOfEff_spec r w res (roundUntilDown asOf res s.hi)
    rw [hal, hwr]
    rcases truncUntilEff_spec hr with ⟨hcut, rfl⟩ | ⟨hcut, hb, ho, hal', hwr'⟩
    · refine ⟨writesIn_nil, hout.imp_right fun ⟨k, hk, h1⟩ => ?_⟩
      exact Or.inl ⟨v, v.upto k, hv, h1, rfl, rfl, hk, rfl, rfl, rfl, hcut⟩
    · refine ⟨hwr', hout.imp_right fun ⟨k, _, h1⟩ => ?_⟩
      exact Or.inr ⟨r.v.upto k, h1, hb, ho, by rw [hal']; rfl, hcut⟩

theorem truncateEff_writes {n : Nat} {s : SV} {w : Nat} {res asOf hi : Int} :
    WritesIn (n ≤ ·) (truncateEff n s w res asOf hi).writes :=
  (truncateEff_spec n s w res asOf hi).1

theorem truncateEff_out {n : Nat} {s : SV} {w : Nat} {res asOf hi : Int} {v' : View}
    (hv' : (truncateEff n s w res asOf hi).out.sl = some v') : BufFrom n s.sl v'.buf := by
  rcases (truncateEff_spec n s w res asOf hi).2 with h | ⟨v, v'', hs, ho, hb, _⟩ | ⟨v'', ho, hb, _⟩
  · rw [h] at hv'
    cases hv'
  · rw [ho] at hv'
    cases hv'
    exact Or.inr ⟨v, hs, hb⟩
  · rw [ho] at hv'
    cases hv'
    exact Or.inl (Nat.le_of_eq hb.symm)

theorem mergeLoopW_writes {P : Nat → Prop} {sout : View} (h : P sout.buf) (w k : Nat) :
    WritesIn P (mergeLoopW sout w k) := by
  simp [WritesIn, mergeLoopW, h]

/-- every store of the body of `Merge` goes through a re-slice of the fresh `out` -/
theorem mergeMainEff_writes {n : Nat} {va vb : View} {startA startB : Int} {w : Nat} {res : Int} :
    WritesIn (n ≤ ·) (mergeMainEff n va vb startA startB w res).writes := by
  simp [mergeMainEff, apply_ite (WritesIn _), apply_ite View.buf, mergeLoopW_writes]

theorem mergeEff_of_left_empty {a : SV} (h : a.len = 0) (n : Nat) (b : SV) (w : Nat) (res tb : Int) :
    mergeEff n a b w res tb = ⟨b, [], []⟩ := by
  unfold mergeEff
  split
  · rfl
  · rename_i v hv
    rw [if_pos (by rwa [SV.len_of_view hv] at h)]

theorem mergeEff_of_right_empty {a b : SV} {va : View} (hva : a.sl = some va) (hna : va.len ≠ 0) (hb : b.len = 0)
    (n w : Nat) (res tb : Int) :
    mergeEff n a b w res tb = ⟨a, [], []⟩ := by
  simp only [mergeEff, hva, if_neg hna]
  split
  · rfl
  · rename_i v hv
    rw [if_pos (by rwa [SV.len_of_view hv] at hb)]

theorem mergeEff_of_views {a b : SV} {va vb : View} (hva : a.sl = some va) (hna : va.len ≠ 0)
    (hvb : b.sl = some vb) (hnb : vb.len ≠ 0) (n w : Nat) (res tb : Int) :
    mergeEff n a b w res tb =
      if b.hi > a.hi then
        if a.hi < roundUntilUp tb res b.hi then ⟨b, [], []⟩ else mergeMainEff n vb va b.hi a.hi w res
      else if b.hi < roundUntilUp tb res a.hi then ⟨a, [], []⟩ else mergeMainEff n va vb a.hi b.hi w res := by
  simp only [mergeEff, hva, hvb, if_neg hna, if_neg hnb]

theorem mergeEff_spec (n : Nat) (a b : SV) (w : Nat) (res tb : Int) :
    mergeEff n a b w res tb = ⟨a, [], []⟩ ∨ mergeEff n a b w res tb = ⟨b, [], []⟩ ∨
    ∃ va vb sa sb, mergeEff n a b w res tb = mergeMainEff n va vb sa sb w res := by
  rcases a.len_cases with ha | ⟨va, hva, hna⟩
  · exact Or.inr (Or.inl (mergeEff_of_left_empty ha n b w res tb))
  rcases b.len_cases with hb | ⟨vb, hvb, hnb⟩
  · exact Or.inl (mergeEff_of_right_empty hva hna hb n w res tb)
  rw [mergeEff_of_views hva hna hvb hnb]
  split
  · split
    · exact Or.inr (Or.inl rfl)
    · exact Or.inr (Or.inr ⟨_, _, _, _, rfl⟩)
  · split
    · exact Or.inl rfl
    · exact Or.inr (Or.inr ⟨_, _, _, _, rfl⟩)

theorem mergeEff_writes {n : Nat} {a b : SV} {w : Nat} {res tb : Int} :
    WritesIn (n ≤ ·) (mergeEff n a b w res tb).writes := by
  rcases mergeEff_spec n a b w res tb with h | h | ⟨va, vb, sa, sb, h⟩
  · rw [h]
    exact writesIn_nil
  · rw [h]
    exact writesIn_nil
  · rw [h]
    exact mergeMainEff_writes

/-- the result of `Merge` lives in one of the operands' buffers or in a fresh one -/
theorem mergeEff_out_from (n : Nat) (s other : SV) (w : Nat) (res tb : Int) :
    ∀ v', (mergeEff n s other w res tb).out.sl = some v' → ViewFrom n s.sl v' ∨ ViewFrom n other.sl v' := by
  intro v' hv'
  rcases mergeEff_spec n s other w res tb with h | h | ⟨va, vb, sa, sb, h⟩
  · rw [h] at hv'
    exact Or.inl (Or.inr ⟨v', hv', rfl⟩)
  · rw [h] at hv'
    exact Or.inr (Or.inr ⟨v', hv', rfl⟩)
  · rw [h] at hv'
    cases hv'
    exact Or.inl (Or.inl (Nat.le_refl _))

/-- a sub-merge closure stores into `data` only (never into `other`) -/
theorem smWrites_writes {P : Nat → Prop} {cb : List Nat} {ow : Nat} {otherRes : Int} {p : Pt} {sm : SM}
    {data : View} (h : P data.buf) {c0 : Nat} {other : View} : WritesIn P (smWrites cb ow otherRes p sm data c0 other) := by
  induction sm generalizing c0 other with
  | direct e => simp [smWrites, h]
  | right skip r ih => exact ih
  | both l skip r ihl ihr => exact writesIn_append.2 ⟨ihl, ihr⟩
  | cond c w ih =>
    simp only [smWrites]
    split
    · exact ih
    · exact writesIn_nil
  | shifted off w ih =>
    simp only [smWrites]
    split
    · exact ih
    · exact writesIn_nil

theorem subMergeLoopEff_writes {P : Nat → Prop} {cb : List Nat} {sm : SM} {w ow : Nat} {otherRes : Int} {p : Pt}
    {scale untilOffset strideSlice ssp : Int} {rp : Nat} {rv : View} (h : P rv.buf) {ov : View} {k po : Nat} :
    WritesIn P (subMergeLoopEff cb sm w ow otherRes p scale untilOffset strideSlice ssp rp rv ov k po) := by
  induction k generalizing po with
  | zero => exact writesIn_nil
  | succ k ih =>
    simp only [subMergeLoopEff]
    split
    · exact writesIn_nil
    · refine writesIn_append.2 ⟨?_, ih⟩
      split
      · split
        · exact writesIn_nil
        · exact smWrites_writes (data := rv.from _) h
      · exact writesIn_nil

/-! the stages of `SubMerge`: a stage stores into fresh buffers and, from there on, into the view under
    construction it is handed; so whatever `P` holds of these holds of all its writes and of its result -/

theorem growEff_writes {n : Nat} {ov : View} {ohi : Int} {ow : Nat} {otherRes shiftBack hi : Int} :
    WritesIn (n ≤ ·) (growEff n ov ohi ow otherRes shiftBack hi).writes := by
  unfold growEff
  split
  · extract_lets shifted0 shifted growByPeriods growBy grown
    split
    · simp [grown]
    · simp
  · simp

theorem prependEff_in {P : Nat → Prop} {n : Nat} {result : SV} (hn : P n) (hn1 : P (n + 1))
    (hr : ∀ rv, result.sl = some rv → P rv.buf) (w : Nat) (res newUntil : Int) :
    WritesIn P (prependEff n result w res newUntil).writes ∧ P (prependEff n result w res newUntil).v.buf := by
  unfold prependEff
  split
  · simp [hn]
  · rename_i rv hrv
    split
    · simp [hn]
    · extract_lets ptp prepended a
      have ha : WritesIn P a.writes ∧ P a.v.buf := appendEff_in (dst := prepended) hn hn1 _
      split
      · simp [prepended, hn, ha]
      · simp [hr rv hrv]

theorem appendPeriodsEff_in {P : Nat → Prop} {n : Nat} {r1 : VE} (hn : P n) (hr : P r1.v.buf) (w : Nat)
    (res otherAsOf : Int) :
    WritesIn P (appendPeriodsEff n r1 w res otherAsOf).writes ∧ P (appendPeriodsEff n r1 w res otherAsOf).v.buf := by
  unfold appendPeriodsEff
  extract_lets np asOf1 oldAsOf newAsOf pta appended
  split
  · simp [appended, hn]
  · simp [hr]

/-- everything `SubMerge` can do: it writes fresh buffers and its receiver's buffer only;
    its result is the receiver itself, or lives in the receiver's buffer or in a fresh one
    — never in `other`'s. -/
theorem subMergeEff_spec {n : Nat} {ex otherEx : Ex} {sm : SM} {res otherRes : Int} {s other : SV} {p : Pt}
    {asOf hi strideSlice : Int} :
    let e := subMergeEff n ex otherEx sm res otherRes s other p asOf hi strideSlice
    WritesIn (BufFrom n s.sl) e.writes ∧ (e.out = s ∨ ∃ v', e.out.sl = some v' ∧ BufFrom n s.sl v'.buf) := by
  dsimp only
  unfold subMergeEff
  extract_lets w ow shiftBack otherAsOf0 otherAsOf t1 n1 t2 n2 scale ssp
  have ht1 : WritesIn (BufFrom n s.sl) t1.writes := truncateEff_writes.of_fresh (Nat.le_refl n) s.sl
  split
  · exact ⟨ht1, Or.inl rfl⟩
  · rename_i ov0 _
    split
    · exact ⟨ht1, Or.inl rfl⟩
    · extract_lets g n3 otherUntil newUntil r1 n4 resultUntil r2 untilOffset resultPeriods otherPeriods wLoop
      have hn1 : n ≤ n1 := Nat.le_add_right _ _
      have hn2 : n ≤ n2 := Nat.le_trans hn1 (Nat.le_add_right _ _)
      have hn3 : n ≤ n3 := Nat.le_trans hn2 (Nat.le_add_right _ _)
      have hn4 : n ≤ n4 := Nat.le_trans hn3 (Nat.le_add_right _ _)
      have ht2 : WritesIn (BufFrom n s.sl) t2.writes := truncateEff_writes.of_fresh hn1 s.sl
      have hg : WritesIn (BufFrom n s.sl) g.writes := growEff_writes.of_fresh hn2 s.sl
      -- the result under construction stays in the receiver's buffer or moves to a fresh one
      have hr1 : WritesIn (BufFrom n s.sl) r1.writes ∧ BufFrom n s.sl r1.v.buf :=
        prependEff_in (Or.inl hn3) (Or.inl (Nat.le_succ_of_le hn3))
          (fun rv hrv => (truncateEff_out hrv).trans hn1 fun o ho => Or.inr ⟨o, ho, rfl⟩) _ _ _
      have hr2 : WritesIn (BufFrom n s.sl) r2.writes ∧ BufFrom n s.sl r2.v.buf :=
        appendPeriodsEff_in (Or.inl hn4) hr1.2 _ _ _
      refine ⟨?_, Or.inr ⟨r2.v, rfl, hr2.2⟩⟩
      simp only [writesIn_append]
      exact ⟨⟨⟨⟨⟨ht1, ht2⟩, hg⟩, hr1.1⟩, hr2.1⟩, subMergeLoopEff_writes hr2.2⟩

/-- the loop invariant of the scan → rowMerger → group composition: everything written so
    far, and the out tree's own sequence, lie in buffers the query itself allocated -/
def QInv (n0 : Nat) (st : QState) : Prop :=
  n0 ≤ st.n ∧ WritesIn (n0 ≤ ·) st.writes ∧ (∀ v, st.out.sl = some v → n0 ≤ v.buf)

theorem fileRowEff_spec (n : Nat) (f : Option (Nat × Nat × Nat × Int)) :
    n ≤ (fileRowEff n f).n ∧ WritesIn (n ≤ ·) (fileRowEff n f).writes := by
  cases f with
  | none => simp [fileRowEff, SV.nil]
  | some t => simp [fileRowEff]

theorem queryRowEff_inv {n0 : Nat} {fe ex : Ex} {sm : SM} {tres tb qres asOf hi stride : Int} {st : QState} {r : SrcRow}
    (h : QInv n0 st) : QInv n0 (queryRowEff fe ex sm tres tb qres asOf hi stride st r) := by
  obtain ⟨hn, hw, ho⟩ := h
  unfold queryRowEff
  extract_lets f m n2 sub
  have hf := fileRowEff_spec st.n r.file
  have hfn : n0 ≤ f.n := Nat.le_trans hn hf.1
  have hn2 : n0 ≤ n2 := Nat.le_trans hfn (Nat.le_add_right _ _)
  have hs : WritesIn (BufFrom n2 st.out.sl) sub.writes ∧ _ := subMergeEff_spec
  -- fresh, or the buffer of the out tree's sequence so far
  have own : ∀ b, BufFrom n2 st.out.sl b → n0 ≤ b := by
    rintro b (hb | ⟨o, ho', rfl⟩)
    · exact Nat.le_trans hn2 hb
    · exact ho o ho'
  refine ⟨Nat.le_trans hn2 (Nat.le_add_right _ _), ?_, ?_⟩
  · simp only [writesIn_append]
    exact ⟨⟨⟨hw, hf.2.mono fun _ => Nat.le_trans hn⟩,
      mergeEff_writes.mono fun _ => Nat.le_trans hfn⟩, hs.1.mono own⟩
  · intro v hv
    rcases hs.2 with h | ⟨v', hv', hfrom⟩
    · exact ho v (h ▸ hv)
    · cases hv'.symm.trans hv
      exact own _ hfrom

theorem queryRows_inv {n0 : Nat} {fe ex : Ex} {sm : SM} {tres tb qres asOf hi stride : Int} {rows : List SrcRow}
    {st : QState} (h : QInv n0 st) : QInv n0 (rows.foldl (queryRowEff fe ex sm tres tb qres asOf hi stride) st) := by
  induction rows generalizing st with
  | nil => exact h
  | cons r rs ih => exact ih (queryRowEff_inv h)

theorem valueAtEff_writes_nil (s : SV) (e : Ex) (res t : Int) : (valueAtEff s e res t).writes = [] := by
  unfold valueAtEff
  cases s.sl with
  | none => simp only [ite_self]
  | some v => simp only [apply_ite RdEff.writes, ite_self]

/-- the invariant holds of the whole query path: `flatten` only reads -/
theorem queryColEff_inv {n0 : Nat} {fe ex : Ex} {sm : SM} {tres tb qres asOf hi stride : Int} {rows : List SrcRow}
    {ts : List Int} : QInv n0 (queryColEff n0 fe ex sm tres tb qres asOf hi stride rows ts) := by
  unfold queryColEff
  extract_lets st
  have h : QInv n0 st := queryRows_inv ⟨Nat.le_refl _, writesIn_nil, by simp [SV.nil]⟩
  refine ⟨h.1, writesIn_append.2 ⟨h.2.1, ?_⟩, h.2.2⟩
  simp only [valueAtEff_writes_nil, List.map_const', List.flatten_replicate_nil]
  exact writesIn_nil

/-! ### heaps with contents -/

/-- byte `o` of buffer `b` lies inside one of the writes -/
def Touches (ws : List Write) (b o : Nat) : Prop := ∃ x ∈ ws, x.buf = b ∧ x.off ≤ o ∧ o < x.off + x.len

/-- `h'` is a heap the execution of `ws` on `h` can produce: whatever is stored, bytes
    outside the written ranges keep their value -/
def Agrees (h h' : Nat → Nat → UInt8) (ws : List Write) : Prop :=
  ∀ b o, ¬ Touches ws b o → h' b o = h b o

theorem Agrees.unchanged {h h' : Nat → Nat → UInt8} {ws : List Write} {P : Nat → Prop} (hexec : Agrees h h' ws)
    (hw : WritesIn P ws) {b : Nat} (hb : ¬ P b) (o : Nat) : h' b o = h b o :=
  hexec b o fun ⟨x, hx, hxb, _⟩ => hb (hxb ▸ hw x hx)

theorem copyColsEff_nil (b off : Nat) : copyColsEff b off [] = ([], []) := rfl

theorem copyColsEff_none (b off : Nat) (s : SV) (ss : List SV) (hs : s.sl = none) :
    copyColsEff b off (s :: ss) = (⟨none, s.hi⟩ :: (copyColsEff b off ss).1, (copyColsEff b off ss).2) := by
  simp [copyColsEff, hs]

theorem copyColsEff_some (b off : Nat) (s : SV) (ss : List SV) (v : View) (hs : s.sl = some v) :
    copyColsEff b off (s :: ss) =
      (⟨some ⟨b, off, v.len, v.len⟩, s.hi⟩ :: (copyColsEff b (off + v.len) ss).1,
        ⟨b, off, v.len⟩ :: (copyColsEff b (off + v.len) ss).2) := by
  simp [copyColsEff, hs]

/-- what `copyData`'s loop produces: views with the same length and `until` as the originals,
    all inside buffer `b` with `cap = len`, and writes into `b` only -/
theorem copyColsEff_in (b : Nat) (cols : List SV) (off : Nat) :
    (copyColsEff b off cols).1.map (fun s => (s.sl.isSome, s.len, s.hi)) = cols.map (fun s => (s.sl.isSome, s.len, s.hi)) ∧
    (∀ s' ∈ (copyColsEff b off cols).1, ∀ v', s'.sl = some v' → v'.buf = b ∧ v'.cap = v'.len) ∧
    WritesIn (· = b) (copyColsEff b off cols).2 := by
  induction cols generalizing off with
  | nil => simp [copyColsEff_nil]
  | cons s ss ih =>
    cases hs : s.sl with
    | none =>
      obtain ⟨h1, h2, h3⟩ := ih off
      rw [copyColsEff_none b off s ss hs]
      refine ⟨?_, List.forall_mem_cons.2 ⟨nofun, h2⟩, h3⟩
      have hl : s.len = 0 := by simp [SV.len, Sl.len, hs]
      simp only [List.map_cons, h1, hs, hl]
      simp [SV.len, Sl.len]
    | some v =>
      obtain ⟨h1, h2, h3⟩ := ih (off + v.len)
      rw [copyColsEff_some b off s ss v hs]
      refine ⟨?_, List.forall_mem_cons.2 ⟨?_, h2⟩, writesIn_cons.2 ⟨rfl, h3⟩⟩
      · simp only [List.map_cons, h1, hs, SV.len_of_view hs]
        simp [SV.len, Sl.len]
      · rintro v' ⟨⟩
        exact ⟨rfl, rfl⟩

theorem treeCopyEff_nil (nObj nArr n : Nat) : treeCopyEff nObj nArr n [] = ⟨[], [], []⟩ := rfl

theorem treeCopyEff_none (nObj nArr n : Nat) (a : TNode) (as : List TNode) (hd : a.data = none) :
    treeCopyEff nObj nArr n (a :: as) =
      ⟨⟨nObj, a.dataArr, none⟩ :: (treeCopyEff (nObj + 1) nArr n as).nodes,
        (treeCopyEff (nObj + 1) nArr n as).allocs, (treeCopyEff (nObj + 1) nArr n as).writes⟩ := by
  simp [treeCopyEff, hd]

theorem treeCopyEff_some (nObj nArr n : Nat) (a : TNode) (as : List TNode) (cols : List SV) (hd : a.data = some cols) :
    treeCopyEff nObj nArr n (a :: as) =
      ⟨⟨nObj, nArr, some (copyColsEff n 0 cols).1⟩ :: (treeCopyEff (nObj + 1) (nArr + 1) (n + 1) as).nodes,
        colsTotal cols :: (treeCopyEff (nObj + 1) (nArr + 1) (n + 1) as).allocs,
        (copyColsEff n 0 cols).2 ++ (treeCopyEff (nObj + 1) (nArr + 1) (n + 1) as).writes⟩ := by
  simp [treeCopyEff, hd]

/-- shape of one node's data: nil-ness, and per column (is non-nil, length, until) -/
def TNode.shape (nd : TNode) : Option (List (Bool × Nat × Int)) :=
  nd.data.map (fun cols => cols.map (fun s => (s.sl.isSome, s.len, s.hi)))

theorem range_shift (nObj k : Nat) :
    (List.range (k + 1)).map (· + nObj) = nObj :: (List.range k).map (· + (nObj + 1)) := by
  simp [List.range_succ_eq_map, Nat.add_comm, Nat.add_left_comm]

end Zeno
