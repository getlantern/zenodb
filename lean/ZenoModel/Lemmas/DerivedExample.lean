/-
Derived selected expressions: the example data of the non-vacuity `example`s in Props/Derived.lean.
Table `SUM(a) AS f0, COUNT(b) AS f1` (plus `_points`), three keys of which two project to d=1; key
conditions: c100 holds for (d=1,e=x) and (d=2,e=x), not for (d=1,e=y).
-/
import ZenoModel.Model.Query
import ZenoModel.Model.StoreColumn
namespace Zeno.Derived
open Zeno

def dA : Ex := .agg .sum (.field "a")
def dB : Ex := .agg .count (.field "b")
def dCfg : TableCfg :=
  { fields := [⟨"_points", .agg .sum (.field "_point")⟩, ⟨"f0", dA⟩, ⟨"f1", dB⟩],
    res := 10, retention := 100, groupBy := none }
def kx1 : Key := [("d", "1"), ("e", "x")]
def ky1 : Key := [("d", "1"), ("e", "y")]
def kx2 : Key := [("d", "2"), ("e", "x")]
def dOps : List StoreOp :=
  [.ingest { ts := 1003, dims := kx1, vals := [("a", [2]), ("b", [1])] },
   .ingest { ts := 1018, dims := ky1, vals := [("a", [6]), ("b", [1])] },
   .flush false,
   .ingest { ts := 1021, dims := kx1, vals := [("a", [4]), ("b", [1])] },
   .ingest { ts := 1040, dims := kx2, vals := [("a", [3]), ("b", [3])] },
   .ingest { ts := 3, dims := kx1, vals := [("a", [9])] },
   .ingest { ts := 950, dims := ky1, vals := [("a", [8]), ("b", [2])] },
   .flush true,
   .ingest { ts := 1034, dims := ky1, vals := [("a", [8]), ("b", [5])] }]
def dMetas : List KeyMeta := [{ key := kx1, conds := [100] }, { key := ky1 }, { key := kx2, conds := [100] }]
def dQ : Query :=
  { outFields := [⟨"q", .bin .div dA dB⟩, ⟨"r", .ifE 100 dA⟩, ⟨"_having", .bin .gt dA (.const 1)⟩],
    groupByAll := false, groupBy := ["d"], resolution := 20, hasSpecificFields := true, hasHaving := true }
/-- `SELECT f0 * 2 AS x`: a constant operand, no HAVING -/
def dQ2 : Query :=
  { outFields := [⟨"x", .bin .mul dA (.const 2)⟩], groupByAll := false, groupBy := ["d"], resolution := 20,
    hasSpecificFields := true }
def dPl (q : Query) : Plan := match planLocal dCfg 1040 q with | .ok p => p | .error _ => default

/-- `… HAVING f0 > f1`: the helper has no value on the empty state -/
def dQ3 : Query := { dQ with outFields := [⟨"q", .bin .div dA dB⟩, ⟨"r", .ifE 100 dA⟩, ⟨"_having", .bin .gt dA dB⟩] }
def okRows (r : Except QErr (List QRow)) : List QRow := match r with | .ok l => l | .error _ => []

end Zeno.Derived
