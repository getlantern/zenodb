/-
Lemmas for C18 (Model/Snapshot.lean).  Ownership: a tree lies `Within` a heap when every cell it
refers to is allocated; every event keeps the invariant `Inv` and leaves alone what the scans already
started can read (`Stable`, `Good`); the deep copy.  The same for the table whose environment (clock,
field list) `setEnv` replaces by another of the `SameShape`: `EInv` and `EGood` are `Inv` and `Good`
with one captured environment per scan.  Reflection: which points a field of the table reflects
(`Refl`) under the laws `Keeps` / `Only`.
-/
import ZenoModel.Model.Snapshot

namespace Zeno.Snap

variable {C P : Type}

/-- `h'` differs from `h` on nothing the tree `nodes` can reach: the nodes' arrays and the
    buffers those arrays refer to -/
def Stable (h h' : Heap C) (nodes : List Node) : Prop :=
  ∀ n ∈ nodes, h'.arr n.arr = h.arr n.arr ∧ ∀ b, some b ∈ h.arr n.arr → h'.buf b = h.buf b

theorem Stable.refl (h : Heap C) (nodes : List Node) : Stable h h nodes :=
  fun _ _ => ⟨rfl, fun _ _ => rfl⟩

theorem Stable.trans {h1 h2 h3 : Heap C} {nodes : List Node}
    (a : Stable h1 h2 nodes) (b : Stable h2 h3 nodes) : Stable h1 h3 nodes := by
  intro n hn
  obtain ⟨a1, a2⟩ := a n hn
  obtain ⟨b1, b2⟩ := b n hn
  refine ⟨b1.trans a1, fun x hx => ?_⟩
  rw [b2 x (by rw [a1]; exact hx), a2 x hx]

theorem map_deref_congr {h h' : Heap C} {l : List (Option Nat)}
    (hb : ∀ b, some b ∈ l → h'.buf b = h.buf b) : l.map h'.deref = l.map h.deref := by
  apply List.map_congr_left
  intro e he
  cases e with
  | none => rfl
  | some b => exact hb b he

theorem readArr_stable {h h' : Heap C} {a : Nat} (ha : h'.arr a = h.arr a)
    (hb : ∀ b, some b ∈ h.arr a → h'.buf b = h.buf b) : h'.readArr a = h.readArr a := by
  unfold Heap.readArr
  rw [ha]
  exact map_deref_congr hb

theorem memViewOf_stable {h h' : Heap C} {nodes : List Node} (s : Stable h h' nodes) (k : Key) :
    memViewOf h' nodes k = memViewOf h nodes k := by
  unfold memViewOf
  cases hf : nodes.find? (fun n => n.key == k) with
  | none => rfl
  | some n =>
    obtain ⟨s1, s2⟩ := s n (List.mem_of_find?_eq_some hf)
    simp [readArr_stable s1 s2]

section heapops
variable (h : Heap C)
@[simp] theorem allocBuf_nb (c : Option C) : (h.allocBuf c).1.nb = h.nb + 1 := rfl
@[simp] theorem allocBuf_na (c : Option C) : (h.allocBuf c).1.na = h.na := rfl
@[simp] theorem allocBuf_arr (c : Option C) : (h.allocBuf c).1.arr = h.arr := rfl
@[simp] theorem allocBuf_buf (c : Option C) (i : Nat) :
    (h.allocBuf c).1.buf i = if i = h.nb then c else h.buf i := rfl
@[simp] theorem allocArr_nb (l : List (Option Nat)) : (h.allocArr l).1.nb = h.nb := rfl
@[simp] theorem allocArr_na (l : List (Option Nat)) : (h.allocArr l).1.na = h.na + 1 := rfl
@[simp] theorem allocArr_buf (l : List (Option Nat)) : (h.allocArr l).1.buf = h.buf := rfl
@[simp] theorem allocArr_arr (l : List (Option Nat)) (a : Nat) :
    (h.allocArr l).1.arr a = if a = h.na then l else h.arr a := rfl
@[simp] theorem writeBuf_nb (b : Nat) (c : C) : (h.writeBuf b c).nb = h.nb := rfl
@[simp] theorem writeBuf_na (b : Nat) (c : C) : (h.writeBuf b c).na = h.na := rfl
@[simp] theorem writeBuf_arr (b : Nat) (c : C) : (h.writeBuf b c).arr = h.arr := rfl
@[simp] theorem writeBuf_buf (b : Nat) (c : C) (i : Nat) :
    (h.writeBuf b c).buf i = if i = b then some c else h.buf i := rfl
@[simp] theorem setElem_nb (a f : Nat) (e : Option Nat) : (h.setElem a f e).nb = h.nb := rfl
@[simp] theorem setElem_na (a f : Nat) (e : Option Nat) : (h.setElem a f e).na = h.na := rfl
@[simp] theorem setElem_buf (a f : Nat) (e : Option Nat) : (h.setElem a f e).buf = h.buf := rfl
@[simp] theorem setElem_arr (a f : Nat) (e : Option Nat) (x : Nat) :
    (h.setElem a f e).arr x = if x = a then (h.arr a).set f e else h.arr x := rfl
end heapops

theorem deref_none (h : Heap C) : h.deref none = none := rfl
theorem deref_some (h : Heap C) (b : Nat) : h.deref (some b) = h.buf b := rfl
theorem setElem_deref (h : Heap C) (a f : Nat) (e x : Option Nat) :
    (h.setElem a f e).deref x = h.deref x := rfl
theorem allocArr_deref (h : Heap C) (l : List (Option Nat)) (x : Option Nat) :
    (h.allocArr l).1.deref x = h.deref x := rfl
theorem writeBuf_deref (h : Heap C) (b : Nat) (c : C) (x : Nat) :
    (h.writeBuf b c).deref (some x) = if x = b then some c else h.buf x := rfl

theorem forall_mem_snoc {α : Type} {p : α → Prop} {l : List α} {a : α} (hl : ∀ x ∈ l, p x) (ha : p a) :
    ∀ x ∈ l ++ [a], p x := by
  intro x hx
  rcases List.mem_append.mp hx with h | h
  · exact hl x h
  · cases List.mem_singleton.mp h
    exact ha

theorem getElem?_append_of_eq_some {α : Type} {l : List α} {i : Nat} {x : α} (h : l[i]? = some x)
    (ex : List α) : (l ++ ex)[i]? = some x := by
  rw [List.getElem?_append_left (List.getElem?_eq_some_iff.mp h).1]
  exact h

theorem getElem?_of_getD_eq_some {l : List (Option Nat)} {f b : Nat} (h : l.getD f none = some b) :
    l[f]? = some (some b) := by
  rw [List.getD_eq_getElem?_getD, Option.getD_eq_iff] at h
  exact h.resolve_right fun h' => nomatch h'.2

theorem getD_set (l : List (Option Nat)) (g f : Nat) (e : Option Nat) :
    (l.set g e).getD f none = if g = f ∧ f < l.length then e else l.getD f none := by
  simp only [List.getD_eq_getElem?_getD, List.getElem?_set]
  by_cases hg : g = f
  · subst hg
    by_cases hl : g < l.length <;> simp [hl]
  · simp [hg]

/-- reading a slot after `n.data[g] = e` -/
theorem getD_setElem (h : Heap C) (a g : Nat) (e : Option Nat) (a' f : Nat) :
    ((h.setElem a g e).arr a').getD f none =
      if a' = a ∧ g = f ∧ f < (h.arr a).length then e else (h.arr a').getD f none := by
  rw [setElem_arr]
  by_cases ha : a' = a
  · rw [if_pos ha, getD_set, ha]
    simp only [true_and]
  · simp only [ha, false_and, if_false]

theorem mem_setElem_arr {h : Heap C} {a f a' : Nat} {e y : Option Nat}
    (hy : y ∈ (h.setElem a f e).arr a') : y ∈ h.arr a' ∨ y = e := by
  rw [setElem_arr] at hy
  split at hy
  · rename_i ha
    exact (List.mem_or_eq_of_mem_set hy).imp_left (ha ▸ ·)
  · exact Or.inl hy

/-- `h'` is `h` after allocations only: every cell of `h` is still there, unchanged -/
structure Heap.Le (h h' : Heap C) : Prop where
  nb : h.nb ≤ h'.nb
  na : h.na ≤ h'.na
  buf : ∀ i, i < h.nb → h'.buf i = h.buf i
  arr : ∀ a, a < h.na → h'.arr a = h.arr a

theorem Heap.Le.refl (h : Heap C) : h.Le h :=
  ⟨Nat.le_refl _, Nat.le_refl _, fun _ _ => rfl, fun _ _ => rfl⟩

theorem Heap.Le.trans {h1 h2 h3 : Heap C} (a : h1.Le h2) (b : h2.Le h3) : h1.Le h3 :=
  ⟨Nat.le_trans a.nb b.nb, Nat.le_trans a.na b.na,
    fun i hi => (b.buf i (Nat.lt_of_lt_of_le hi a.nb)).trans (a.buf i hi),
    fun x hx => (b.arr x (Nat.lt_of_lt_of_le hx a.na)).trans (a.arr x hx)⟩

theorem allocBuf_le (h : Heap C) (c : Option C) : h.Le (h.allocBuf c).1 :=
  ⟨Nat.le_succ _, Nat.le_refl _, fun _ hi => if_neg (Nat.ne_of_lt hi), fun _ _ => rfl⟩

theorem allocArr_le (h : Heap C) (l : List (Option Nat)) : h.Le (h.allocArr l).1 :=
  ⟨Nat.le_refl _, Nat.le_succ _, fun _ _ => rfl, fun _ ha => if_neg (Nat.ne_of_lt ha)⟩

def Within (h : Heap C) (ns : List Node) : Prop :=
  ∀ n ∈ ns, n.arr < h.na ∧ ∀ b, some b ∈ h.arr n.arr → b < h.nb

theorem Heap.Le.stable {h h' : Heap C} {ns : List Node} (le : h.Le h') (w : Within h ns) :
    Stable h h' ns :=
  fun n hn => ⟨le.arr _ (w n hn).1, fun b hb => le.buf b ((w n hn).2 b hb)⟩

theorem Heap.Le.within {h h' : Heap C} {ns : List Node} (le : h.Le h') (w : Within h ns) :
    Within h' ns := by
  intro n hn
  refine ⟨Nat.lt_of_lt_of_le (w n hn).1 le.na, fun b hb => ?_⟩
  rw [le.arr _ (w n hn).1] at hb
  exact Nat.lt_of_lt_of_le ((w n hn).2 b hb) le.nb

/-- The ownership invariant.  Everything a tree refers to exists (`*Arr`, `*Buf`: ids below the
    allocation counters), live `data` slices have one slot per field (`liveLen`), and what a
    scan's copy can read is disjoint from what the live tree can write (`sepArr`: the arrays,
    `sepBuf`: the sequence buffers). -/
structure Inv (cfg : Cfg C P) (st : State C) : Prop where
  liveArr : ∀ n ∈ st.live, n.arr < st.heap.na
  liveBuf : ∀ n ∈ st.live, ∀ b, some b ∈ st.heap.arr n.arr → b < st.heap.nb
  liveLen : ∀ n ∈ st.live, (st.heap.arr n.arr).length = cfg.nf
  scanArr : ∀ sc ∈ st.scans, ∀ n ∈ sc.nodes, n.arr < st.heap.na
  scanBuf : ∀ sc ∈ st.scans, ∀ n ∈ sc.nodes, ∀ b, some b ∈ st.heap.arr n.arr → b < st.heap.nb
  sepArr : ∀ sc ∈ st.scans, ∀ n ∈ sc.nodes, ∀ m ∈ st.live, n.arr ≠ m.arr
  sepBuf : ∀ sc ∈ st.scans, ∀ n ∈ sc.nodes, ∀ m ∈ st.live, ∀ b,
    some b ∈ st.heap.arr n.arr → some b ∉ st.heap.arr m.arr

theorem inv_init (cfg : Cfg C P) : Inv cfg ({} : State C) := by
  constructor <;> simp

/-- what one event guarantees; `ex`: the scans it started -/
structure Good (cfg : Cfg C P) (st st' : State C) (ex : List (Scan C)) : Prop where
  inv : Inv cfg st'
  scans : st'.scans = st.scans ++ ex
  frame : ∀ sc ∈ st.scans, Stable st.heap st'.heap sc.nodes

section
variable {cfg : Cfg C P} {st : State C}

theorem Inv.live_within (i : Inv cfg st) : Within st.heap st.live :=
  fun n hn => ⟨i.liveArr n hn, i.liveBuf n hn⟩

theorem Inv.scan_within (i : Inv cfg st) {sc : Scan C} (hsc : sc ∈ st.scans) : Within st.heap sc.nodes :=
  fun n hn => ⟨i.scanArr sc hsc n hn, i.scanBuf sc hsc n hn⟩

theorem Good.refl (i : Inv cfg st) : Good cfg st st [] :=
  ⟨i, (List.append_nil _).symm, fun _ _ => Stable.refl _ _⟩

theorem Good.trans {s1 s2 s3 : State C} {e1 e2 : List (Scan C)}
    (a : Good cfg s1 s2 e1) (b : Good cfg s2 s3 e2) : Good cfg s1 s3 (e1 ++ e2) :=
  ⟨b.inv, by rw [b.scans, a.scans, List.append_assoc], fun sc hsc =>
    (a.frame sc hsc).trans (b.frame sc (by rw [a.scans]; exact List.mem_append_left _ hsc))⟩

theorem Good.getElem?_new {st' : State C} {sc : Scan C} (g : Good cfg st st' [sc]) :
    st'.scans[st.scans.length]? = some sc := by
  rw [g.scans]
  exact List.getElem?_concat_length

theorem good_extend (i : Inv cfg st) {h' : Heap C} (le : st.heap.Le h') :
    Good cfg st { st with heap := h' } [] := by
  refine ⟨⟨?_, ?_, ?_, ?_, ?_, i.sepArr, ?_⟩, (List.append_nil _).symm,
    fun sc hsc => le.stable (i.scan_within hsc)⟩
  · exact fun n hn => (le.within i.live_within n hn).1
  · exact fun n hn => (le.within i.live_within n hn).2
  · intro n hn
    exact (congrArg List.length (le.arr _ (i.liveArr n hn))).trans (i.liveLen n hn)
  · exact fun sc hsc n hn => (le.within (i.scan_within hsc) n hn).1
  · exact fun sc hsc n hn => (le.within (i.scan_within hsc) n hn).2
  · intro sc hsc n hn m hm b hb
    simp only [le.arr _ (i.scanArr sc hsc n hn), le.arr _ (i.liveArr m hm)] at hb ⊢
    exact i.sepBuf sc hsc n hn m hm b hb

theorem good_writeBuf (i : Inv cfg st) {m : Node} (hm : m ∈ st.live) {b : Nat}
    (hb : some b ∈ st.heap.arr m.arr) (c : C) :
    Good cfg st { st with heap := st.heap.writeBuf b c } [] := by
  refine ⟨{ i with }, (List.append_nil _).symm, fun sc hsc n hn => ⟨rfl, fun x hx => if_neg ?_⟩⟩
  rintro rfl
  exact i.sepBuf sc hsc n hn m hm x hx hb

/-- `n.data[f] = e` on a live node -/
theorem good_setElem (i : Inv cfg st) {m : Node} (hm : m ∈ st.live) (f : Nat) {b : Nat}
    (hb : b < st.heap.nb)
    (hfresh : ∀ sc ∈ st.scans, ∀ n ∈ sc.nodes, some b ∉ st.heap.arr n.arr) :
    Good cfg st { st with heap := st.heap.setElem m.arr f (some b) } [] := by
  have hscan : ∀ sc ∈ st.scans, ∀ n ∈ sc.nodes,
      (st.heap.setElem m.arr f (some b)).arr n.arr = st.heap.arr n.arr :=
    fun sc hsc n hn => if_neg (i.sepArr sc hsc n hn m hm)
  refine ⟨⟨i.liveArr, ?_, ?_, i.scanArr, ?_, i.sepArr, ?_⟩, (List.append_nil _).symm,
    fun sc hsc n hn => ⟨hscan sc hsc n hn, fun _ _ => rfl⟩⟩
  · intro n hn x hx
    rcases mem_setElem_arr hx with h | h
    · exact i.liveBuf n hn x h
    · cases h
      exact hb
  · intro n hn
    simp only [setElem_arr]
    split
    · rw [List.length_set]
      exact i.liveLen m hm
    · exact i.liveLen n hn
  · intro sc hsc n hn x hx
    rw [hscan sc hsc n hn] at hx
    exact i.scanBuf sc hsc n hn x hx
  · intro sc hsc n hn m' hm' x hx hc
    rw [hscan sc hsc n hn] at hx
    rcases mem_setElem_arr hc with h | h
    · exact i.sepBuf sc hsc n hn m' hm' x hx h
    · cases h
      exact hfresh sc hsc n hn hx

theorem good_newNode (i : Inv cfg st) (k : Key) {l : List (Option Nat)} (hlen : l.length = cfg.nf)
    (hl : ∀ b, some b ∈ l → b < st.heap.nb ∧
      ∀ sc ∈ st.scans, ∀ n ∈ sc.nodes, some b ∉ st.heap.arr n.arr) :
    Good cfg st { st with heap := (st.heap.allocArr l).1,
                          live := st.live ++ [{ key := k, arr := st.heap.na }] } [] := by
  have g := good_extend i (allocArr_le st.heap l)
  have hnew : (st.heap.allocArr l).1.arr st.heap.na = l := if_pos rfl
  refine ⟨⟨forall_mem_snoc g.inv.liveArr (Nat.lt_succ_self _),
    forall_mem_snoc g.inv.liveBuf fun b hb => (hl b (hnew ▸ hb)).1,
    forall_mem_snoc g.inv.liveLen ((congrArg List.length hnew).trans hlen),
    g.inv.scanArr, g.inv.scanBuf,
    fun sc hsc n hn => forall_mem_snoc (i.sepArr sc hsc n hn) (Nat.ne_of_lt (i.scanArr sc hsc n hn)),
    fun sc hsc n hn => forall_mem_snoc (g.inv.sepBuf sc hsc n hn) fun b hb hc => ?_⟩,
    g.scans, g.frame⟩
  rw [allocArr_arr, if_neg (Nat.ne_of_lt (i.scanArr sc hsc n hn))] at hb
  exact (hl b (hnew ▸ hc)).2 sc hsc n hn hb

theorem good_newScan (i : Inv cfg st) (sc : Scan C) (w : Within st.heap sc.nodes)
    (sep : ∀ n ∈ sc.nodes, ∀ m ∈ st.live, n.arr ≠ m.arr ∧
      ∀ b, some b ∈ st.heap.arr n.arr → some b ∉ st.heap.arr m.arr) :
    Good cfg st { st with scans := st.scans ++ [sc] } [sc] :=
  ⟨⟨i.liveArr, i.liveBuf, i.liveLen,
    forall_mem_snoc i.scanArr fun n hn => (w n hn).1,
    forall_mem_snoc i.scanBuf fun n hn => (w n hn).2,
    forall_mem_snoc i.sepArr fun n hn m hm => (sep n hn m hm).1,
    forall_mem_snoc i.sepBuf fun n hn m hm => (sep n hn m hm).2⟩,
    rfl, fun _ _ => Stable.refl _ _⟩

/-- the three ways `node.doUpdate` treats one field: write into the bytes of the slot's buffer,
    store a new buffer into the slot, or create the node -/
theorem ingestField_cases {p : P} {f : Nat} (motive : State C → Prop)
    (inPlace : ∀ m b, st.live.find? (fun n => n.key == cfg.keyOf p) = some m →
      (st.heap.arr m.arr).getD f none = some b →
      motive { st with heap := st.heap.writeBuf b (cfg.upd f (st.heap.buf b) p) })
    (realloc : ∀ m, st.live.find? (fun n => n.key == cfg.keyOf p) = some m →
      motive { st with heap := (st.heap.allocBuf (some (cfg.upd f
        (st.heap.deref ((st.heap.arr m.arr).getD f none)) p))).1.setElem m.arr f (some st.heap.nb) })
    (newKey : st.live.find? (fun n => n.key == cfg.keyOf p) = none →
      motive { st with
        heap := ((st.heap.allocBuf (some (cfg.upd f none p))).1.allocArr
          ((List.replicate cfg.nf none).set f (some st.heap.nb))).1,
        live := st.live ++ [{ key := cfg.keyOf p, arr := st.heap.na }] }) :
    motive (ingestField cfg st p f) := by
  unfold ingestField
  dsimp only
  cases hf : st.live.find? (fun n => n.key == cfg.keyOf p) with
  | none => exact newKey hf
  | some m =>
    dsimp only
    split
    · rename_i b heq _
      rw [heq]
      exact inPlace m b hf heq
    · exact realloc m hf

theorem good_ingestField (i : Inv cfg st) (p : P) (f : Nat) :
    Good cfg st (ingestField cfg st p f) [] := by
  -- a buffer allocated now is one no scan refers to
  have hfresh : ∀ sc ∈ st.scans, ∀ n ∈ sc.nodes, some st.heap.nb ∉ st.heap.arr n.arr :=
    fun sc hsc n hn hb => Nat.lt_irrefl _ (i.scanBuf sc hsc n hn _ hb)
  have g := fun c => good_extend i (allocBuf_le st.heap c)
  refine ingestField_cases (fun s => Good cfg st s []) ?_ ?_ ?_
  · intro m b hm hb
    exact good_writeBuf i (List.mem_of_find?_eq_some hm)
      (List.mem_of_getElem? (getElem?_of_getD_eq_some hb)) _
  · intro m hm
    exact (g _).trans
      (good_setElem (g _).inv (List.mem_of_find?_eq_some hm) f (Nat.lt_succ_self _) hfresh)
  · intro _
    refine (g _).trans (good_newNode (g _).inv _ (by simp) fun b hb => ?_)
    rcases List.mem_or_eq_of_mem_set hb with h | h
    · simp at h
    · cases h
      exact ⟨Nat.lt_succ_self _, hfresh⟩

theorem ingestFields_induct {p : P} {Q : State C → Prop}
    (hQ : ∀ st f, Inv cfg st → Q st → Q (ingestField cfg st p f)) :
    ∀ (fs : List Nat) (st : State C), Inv cfg st → Q st →
      Q (fs.foldl (fun s f => ingestField cfg s p f) st)
  | [], _, _, h => h
  | f :: fs, st, i, h => ingestFields_induct hQ fs _ (good_ingestField i p f).inv (hQ st f i h)

theorem good_ingestFields (p : P) (fs : List Nat) (i : Inv cfg st) :
    Good cfg st (fs.foldl (fun s f => ingestField cfg s p f) st) [] :=
  ingestFields_induct (Q := fun s => Good cfg st s [])
    (fun _ f is g => g.trans (good_ingestField is p f)) fs st i (Good.refl i)

theorem good_ingest (i : Inv cfg st) (p : P) : Good cfg st (ingest cfg st p) [] :=
  good_ingestFields p _ i

/-- `doProcessFlush`: no heap write at all; the live tree is replaced -/
theorem good_flush (i : Inv cfg st) (raw : Bool) :
    Good cfg st (flush cfg st raw) [] := by
  unfold flush
  split
  · exact Good.refl i
  · refine ⟨⟨?_, ?_, ?_, i.scanArr, i.scanBuf, ?_, ?_⟩, (List.append_nil _).symm,
      fun sc _ => Stable.refl _ _⟩ <;> simp

theorem copyElems_spec (l : List (Option Nat)) (h : Heap C) (hb : ∀ b, some b ∈ l → b < h.nb) :
    h.Le (copyElems h l).1 ∧
    (∀ b, some b ∈ (copyElems h l).2 → h.nb ≤ b ∧ b < (copyElems h l).1.nb) ∧
    (copyElems h l).2.map (copyElems h l).1.deref = l.map h.deref := by
  fun_induction copyElems h l with
  | case1 h => exact ⟨Heap.Le.refl h, by simp, rfl⟩
  | case2 h r h' r' e ih =>
    rw [e] at ih
    obtain ⟨i1, i2, i3⟩ := ih fun b hm => hb b (List.mem_cons_of_mem _ hm)
    exact ⟨i1, fun b hm => i2 b (by simpa using hm), congrArg (none :: ·) i3⟩
  | case3 h b r h1 h' r' e ih =>
    rw [e] at ih
    have hr : ∀ x, some x ∈ r → x < h.nb := fun x hm => hb x (List.mem_cons_of_mem _ hm)
    obtain ⟨i1, i2, i3⟩ := ih fun x hm => Nat.lt_succ_of_lt (hr x hm)
    refine ⟨(allocBuf_le h _).trans i1, fun x hm => ?_, ?_⟩
    · rcases List.mem_cons.mp hm with hm | hm
      · cases hm
        exact ⟨Nat.le_refl _, i1.nb⟩
      · exact ⟨Nat.le_of_succ_le (i2 x hm).1, (i2 x hm).2⟩
    · rw [List.map_cons, List.map_cons, i3,
        map_deref_congr fun x hx => (allocBuf_le h _).buf x (hr x hx)]
      exact congrArg (· :: _) ((i1.buf _ (Nat.lt_succ_self _)).trans (if_pos rfl))

/-- what `Tree.Copy` (deep) guarantees: only allocations (old cells untouched), the copy lives
    entirely in the freshly allocated range, and reads like the original -/
theorem copyNodes_deep_spec (ns : List Node) (h : Heap C) (w : Within h ns) :
    h.Le (copyNodes .deep h ns).1 ∧
    (∀ n ∈ (copyNodes .deep h ns).2, h.na ≤ n.arr ∧ n.arr < (copyNodes .deep h ns).1.na ∧
      ∀ b, some b ∈ (copyNodes .deep h ns).1.arr n.arr →
        h.nb ≤ b ∧ b < (copyNodes .deep h ns).1.nb) ∧
    (∀ k, memViewOf (copyNodes .deep h ns).1 (copyNodes .deep h ns).2 k = memViewOf h ns k) := by
  fun_induction copyNodes .deep h ns with
  | case1 h => exact ⟨Heap.Le.refl h, by simp, fun _ => rfl⟩
  | case2 => contradiction
  | case3 => contradiction
  | case4 h n r _ h1 es hce h2 h' r' hcn ih =>
    have wn := w n (List.mem_cons_self ..)
    have wr : Within h r := fun m hm => w m (List.mem_cons_of_mem _ hm)
    obtain ⟨e1, e2, e3⟩ := copyElems_spec (h.arr n.arr) h wn.2
    rw [hce] at e1 e2 e3
    have le2 : h.Le h2 := e1.trans (allocArr_le h1 es)
    rw [hcn] at ih ⊢
    obtain ⟨j1, j2, j3⟩ := ih (le2.within wr)
    have harr : h'.arr h1.na = es := (j1.arr _ (Nat.lt_succ_self _)).trans (if_pos rfl)
    refine ⟨le2.trans j1, fun m hm => ?_, fun k => ?_⟩
    · rcases List.mem_cons.mp hm with hm | hm
      · cases hm
        refine ⟨e1.na, Nat.lt_of_lt_of_le (Nat.lt_succ_self _) j1.na, fun b hb => ?_⟩
        have := e2 b (harr ▸ hb)
        exact ⟨this.1, Nat.lt_of_lt_of_le this.2 j1.nb⟩
      · obtain ⟨k1, k2, k3⟩ := j2 m hm
        exact ⟨Nat.le_trans le2.na k1, k2, fun b hb =>
          ⟨Nat.le_trans le2.nb (k3 b hb).1, (k3 b hb).2⟩⟩
    · unfold memViewOf
      simp only [List.find?_cons]
      cases hk : (n.key == k) with
      | true =>
        simp only [Option.map_some]
        congr 1
        unfold Heap.readArr
        rw [harr, ← e3]
        exact map_deref_congr fun b hb => j1.buf b (e2 b hb).2
      | false => exact (j3 k).trans (memViewOf_stable (le2.stable wr) k)

theorem good_scanStart (i : Inv cfg st) :
    Good cfg st (scanStart .deep st)
      [{ nodes := (copyNodes .deep st.heap st.live).2, file := st.file }] ∧
    ∀ k, memViewOf (scanStart .deep st).heap (copyNodes .deep st.heap st.live).2 k =
      memViewOf st.heap st.live k := by
  obtain ⟨le, fr, hv⟩ := copyNodes_deep_spec st.live st.heap i.live_within
  have g := good_extend i le
  refine ⟨g.trans (good_newScan g.inv _ ?_ ?_), hv⟩
  · exact fun n hn => ⟨(fr n hn).2.1, fun b hb => ((fr n hn).2.2 b hb).2⟩
  · intro n hn m hm
    refine ⟨Nat.ne_of_gt (Nat.lt_of_lt_of_le (i.liveArr m hm) (fr n hn).1), fun b hb hc => ?_⟩
    have := i.liveBuf m hm b ((le.arr _ (i.liveArr m hm)) ▸ hc)
    exact Nat.lt_irrefl _ (Nat.lt_of_lt_of_le this ((fr n hn).2.2 b hb).1)

theorem good_step (i : Inv cfg st) (e : Ev P) :
    ∃ ex, Good cfg st (step cfg .deep st e).1 ex := by
  cases e with
  | ingest p => exact ⟨_, good_ingest i p⟩
  | ingestField p f => exact ⟨_, good_ingestField i p f⟩
  | flush raw => exact ⟨_, good_flush i raw⟩
  | scanStart => exact ⟨_, (good_scanStart i).1⟩
  | deliver sid k =>
    simp only [step]
    split <;> exact ⟨_, Good.refl i⟩

theorem inv_step (i : Inv cfg st) (e : Ev P) : Inv cfg (step cfg .deep st e).1 :=
  (good_step i e).elim fun _ g => g.inv

theorem inv_run : ∀ (es : List (Ev P)) (st : State C), Inv cfg st → Inv cfg (run cfg .deep st es).1
  | [], _, i => i
  | e :: es, _, i => inv_run es _ (inv_step i e)

end

/-- Whatever happens after a scan has started, each of its deliveries is the row the
    scan would have read at the state in which we start looking -/
theorem run_deliveries (cfg : Cfg C P) : ∀ (es : List (Ev P)) (st : State C), Inv cfg st →
    ∀ (sid : Nat) (sc : Scan C), st.scans[sid]? = some sc →
    ∀ (k : Key) (r : Option (Row C)), (sid, k, r) ∈ (run cfg .deep st es).2 →
      r = rowOf cfg (sc.file k) (memViewOf st.heap sc.nodes k)
  | [], st, _, sid, sc, _, k, r, hm => by simp [run] at hm
  | e :: es, st, i, sid, sc, hsc, k, r, hm => by
    obtain ⟨ex, g⟩ := good_step i e
    simp only [run, List.mem_append, Option.mem_toList] at hm
    rcases hm with hm | hm
    · -- delivered by this very event: read in `st` through the scan with this id
      cases e with
      | deliver sid' k' =>
        simp only [step] at hm
        split at hm
        all_goals
          rename_i hsc'
          simp only [Option.some.injEq, Prod.mk.injEq] at hm
          obtain ⟨rfl, rfl, rfl⟩ := hm
          cases hsc.symm.trans hsc'
        rfl
      | _ => cases hm
    · rw [run_deliveries cfg es _ g.inv sid sc (g.scans ▸ getElem?_append_of_eq_some hsc ex) k r hm,
        memViewOf_stable (g.frame sc (List.mem_of_getElem? hsc)) k]

/-- the environment may change what `merge` / `wr` compute, not the shape of the table -/
def SameShape {E : Type} (cfgOf : E → Cfg C P) : Prop := ∀ e e', (cfgOf e).nf = (cfgOf e').nf

theorem inv_of_nf {cfg cfg' : Cfg C P} (h : cfg.nf = cfg'.nf) {st : State C} (i : Inv cfg st) :
    Inv cfg' st :=
  { i with liveLen := fun n hn => h ▸ i.liveLen n hn }

structure EInv {E : Type} (cfgOf : E → Cfg C P) (st : EState C E) : Prop where
  inv : Inv (cfgOf st.cur) st.base
  len : st.envs.length = st.base.scans.length

structure EGood {E : Type} (cfgOf : E → Cfg C P) (st st' : EState C E) : Prop where
  inv : EInv cfgOf st'
  scans : ∃ ex, st'.base.scans = st.base.scans ++ ex
  envs : ∃ ex, st'.envs = st.envs ++ ex
  frame : ∀ sc ∈ st.base.scans, Stable st.base.heap st'.base.heap sc.nodes

theorem egood_of_good {E : Type} {cfgOf : E → Cfg C P} {st : EState C E} (i : EInv cfgOf st)
    {b : State C} (g : Good (cfgOf st.cur) st.base b []) : EGood cfgOf st { st with base := b } :=
  ⟨⟨g.inv, i.len.trans (congrArg List.length (g.scans.trans (List.append_nil _))).symm⟩,
    ⟨[], g.scans⟩, ⟨[], (List.append_nil _).symm⟩, g.frame⟩

theorem egood_estep {E : Type} (cfgOf : E → Cfg C P) (hs : SameShape cfgOf) (rr : E → E → E)
    (st : EState C E) (i : EInv cfgOf st) (e : EEv P E) :
    EGood cfgOf st (estep cfgOf .deep rr st e).1 := by
  cases e with
  | setEnv e' =>
    exact ⟨⟨inv_of_nf (hs _ _) i.inv, i.len⟩, ⟨[], (List.append_nil _).symm⟩,
      ⟨[], (List.append_nil _).symm⟩, fun _ _ => Stable.refl _ _⟩
  | base ev =>
    cases ev with
    | ingest p => exact egood_of_good i (good_ingest i.inv p)
    | ingestField p f => exact egood_of_good i (good_ingestField i.inv p f)
    | flush raw => exact egood_of_good i (good_flush i.inv raw)
    | scanStart =>
      have g := (good_scanStart i.inv).1
      refine ⟨⟨g.inv, ?_⟩, ⟨_, g.scans⟩, ⟨_, rfl⟩, g.frame⟩
      simp only [estep, g.scans, List.length_append, i.len, List.length_singleton]
    | deliver sid k =>
      simp only [estep]
      split <;> exact egood_of_good i (Good.refl i.inv)

theorem einv_erun {E : Type} (cfgOf : E → Cfg C P) (hs : SameShape cfgOf) (rr : E → E → E) :
    ∀ (es : List (EEv P E)) (st : EState C E), EInv cfgOf st → EInv cfgOf (erun cfgOf .deep rr st es).1
  | [], _, i => i
  | e :: es, st, i => einv_erun cfgOf hs rr es _ (egood_estep cfgOf hs rr st i e).inv

theorem einv_init {E : Type} (cfgOf : E → Cfg C P) (e0 : E) : EInv cfgOf ({ cur := e0 } : EState C E) :=
  ⟨inv_init _, rfl⟩

/-- With environment: a delivery that takes everything from the captured record is the
    row the scan would have read — under the captured environment — at the state in which we
    start looking, whatever happens to heap, file, clock, fields in between -/
theorem erun_deliveries {E : Type} (cfgOf : E → Cfg C P) (hs : SameShape cfgOf) :
    ∀ (es : List (EEv P E)) (st : EState C E), EInv cfgOf st →
    ∀ (sid : Nat) (sc : Scan C) (en : E), st.base.scans[sid]? = some sc → st.envs[sid]? = some en →
    ∀ (k : Key) (r : Option (Row C)), (sid, k, r) ∈ (erun cfgOf .deep keepCaptured st es).2 →
      r = deliverRow (cfgOf en) st.base sc k
  | [], st, _, sid, sc, en, _, _, k, r, hm => by simp [erun] at hm
  | e :: es, st, i, sid, sc, en, hsc, hen, k, r, hm => by
    have g := egood_estep cfgOf hs keepCaptured st i e
    simp only [erun, List.mem_append, Option.mem_toList] at hm
    rcases hm with hm | hm
    · -- delivered by this very event: scan and captured environment with this id
      cases e with
      | setEnv e' => cases hm
      | base ev =>
        cases ev with
        | deliver sid' k' =>
          simp only [estep] at hm
          split at hm
          all_goals
            simp only [Option.some.injEq, Prod.mk.injEq] at hm
            obtain ⟨rfl, rfl, rfl⟩ := hm
          · rename_i hsc' hen'
            cases hsc.symm.trans hsc'
            cases hen.symm.trans hen'
            rfl
          · rename_i hnot
            exact absurd hen (hnot sc en hsc)
        | _ => cases hm
    · obtain ⟨ex, hex⟩ := g.scans
      obtain ⟨ex', hex'⟩ := g.envs
      rw [erun_deliveries cfgOf hs es _ g.inv sid sc en (hex ▸ getElem?_append_of_eq_some hsc ex)
        (hex' ▸ getElem?_append_of_eq_some hen ex') k r hm]
      unfold deliverRow
      rw [memViewOf_stable (g.frame sc (List.mem_of_getElem? hsc)) k]

/-! ## which points a stored value reflects

`R c p` ("sequence value `c` reflects point `p`") is an arbitrary relation constrained only
by how the sequence operations treat it: `Keeps` (an update adds its point and keeps the
earlier ones; merging and writing to the file keep what either side reflects — the latter is
"the period has not expired") and `Only` (nothing else creates a reflection). -/

structure Keeps (cfg : Cfg C P) (R : C → P → Prop) : Prop where
  upd_self : ∀ f c p, R (cfg.upd f c p) p
  upd_keep : ∀ f c p q, R c q → R (cfg.upd f (some c) p) q
  merge_l : ∀ f a b q, R a q → ∃ c, cfg.merge f (some a) b = some c ∧ R c q
  merge_r : ∀ f a b q, R b q → ∃ c, cfg.merge f a (some b) = some c ∧ R c q
  wr_keep : ∀ (row : Row C) f c q, row.getD f none = some c → R c q →
    ∃ row' c', cfg.wr row = some row' ∧ row'.getD f none = some c' ∧ R c' q

structure Only (cfg : Cfg C P) (R : C → P → Prop) : Prop where
  upd_only : ∀ f c p q, R (cfg.upd f c p) q → q = p ∨ ∃ c0, c = some c0 ∧ R c0 q
  merge_only : ∀ f a b c q, cfg.merge f a b = some c → R c q →
    (∃ a0, a = some a0 ∧ R a0 q) ∨ (∃ b0, b = some b0 ∧ R b0 q)
  wr_only : ∀ (row row' : Row C) f c' q, cfg.wr row = some row' → row'.getD f none = some c' →
    R c' q → ∃ c, row.getD f none = some c ∧ R c q

/-- the point an event applies (wholly or partly) -/
def Ev.point : Ev P → Option P
  | .ingest p => some p
  | .ingestField p _ => some p
  | _ => none

section
variable {cfg : Cfg C P} {R : C → P → Prop} {st : State C}

/-- an optional value reflects `p` -/
def RO (R : C → P → Prop) (o : Option C) (p : P) : Prop := ∃ c, o = some c ∧ R c p

theorem not_ro_none {p : P} : ¬ RO R none p :=
  fun ⟨_, h, _⟩ => nomatch h

/-- field `f` of an optional row -/
def fld (r : Option (Row C)) (f : Nat) : Option C := (r.getD []).getD f none

theorem mergeRow_getD (fc mc : Option (Row C)) {f : Nat} (hf : f < cfg.nf) :
    (mergeRow cfg fc mc).getD f none = cfg.merge f (fld fc f) (fld mc f) := by
  simp [mergeRow, fld, List.getD_eq_getElem?_getD, List.getElem?_map, List.getElem?_range hf]

theorem mergeRow_getD_ge (fc mc : Option (Row C)) {f : Nat} (hf : cfg.nf ≤ f) :
    (mergeRow cfg fc mc).getD f none = none := by
  have : (mergeRow cfg fc mc).length = cfg.nf := by simp [mergeRow]
  rw [List.getD_eq_getElem?_getD, List.getElem?_eq_none (by omega)]
  rfl

/-- the memstore side of field `f` of key `k`: the slot of the live tree, read through its
    reference -/
def memSide (st : State C) (k : Key) (f : Nat) : Option C :=
  match st.live.find? (fun n => n.key == k) with
  | some n => st.heap.deref ((st.heap.arr n.arr).getD f none)
  | none => none

theorem fld_memView (st : State C) (k : Key) (f : Nat) :
    fld (memViewOf st.heap st.live k) f = memSide st k f := by
  unfold fld memViewOf memSide
  cases st.live.find? (fun n => n.key == k) with
  | none => rfl
  | some n =>
    simp only [Option.map_some, Option.getD_some, Heap.readArr, List.getD_eq_getElem?_getD,
      List.getElem?_map]
    cases (st.heap.arr n.arr)[f]? <;> rfl

/-- a buffer allocated now is behind no slot of the live tree -/
theorem Inv.deref_allocBuf (i : Inv cfg st) {n : Node} (hn : n ∈ st.live) (c : Option C) (f : Nat) :
    (st.heap.allocBuf c).1.deref ((st.heap.arr n.arr).getD f none) =
      st.heap.deref ((st.heap.arr n.arr).getD f none) := by
  cases hx : (st.heap.arr n.arr).getD f none with
  | none => rfl
  | some x =>
    exact if_neg (Nat.ne_of_lt (i.liveBuf n hn x (List.mem_of_getElem? (getElem?_of_getD_eq_some hx))))

/-- What one iteration of the field loop of an insert of `q` does to a slot of the live tree:
    the slot is left alone, or holds its old value updated with `q` (the latter also for a slot
    that shares its buffer with the one written in place); the slot of q's own key and field is
    updated. -/
theorem memSide_ingestField (i : Inv cfg st) (q : P) (g : Nat) (k : Key) (f : Nat) :
    (memSide (ingestField cfg st q g) k f = memSide st k f ∨
      memSide (ingestField cfg st q g) k f = some (cfg.upd g (memSide st k f) q)) ∧
    (k = cfg.keyOf q → f = g → g < cfg.nf →
      memSide (ingestField cfg st q g) k f = some (cfg.upd g (memSide st k f) q)) := by
  refine ingestField_cases (fun s =>
    (memSide s k f = memSide st k f ∨ memSide s k f = some (cfg.upd g (memSide st k f) q)) ∧
    (k = cfg.keyOf q → f = g → g < cfg.nf →
      memSide s k f = some (cfg.upd g (memSide st k f) q))) ?_ ?_ ?_
  · intro m b hm hb
    constructor
    · unfold memSide
      dsimp only
      split
      · rw [writeBuf_arr]
        cases (st.heap.arr _).getD f none with
        | none => exact Or.inl rfl
        | some x =>
          rw [writeBuf_deref, deref_some]
          split
          · rename_i hxb
            rw [hxb]
            exact Or.inr rfl
          · exact Or.inl rfl
      · exact Or.inl rfl
    · rintro rfl rfl _
      simp only [memSide, hm, writeBuf_arr, hb, writeBuf_deref, if_pos]
      rfl
  · intro m hm
    constructor
    · unfold memSide
      dsimp only
      split
      · rename_i n hn
        rw [setElem_deref, getD_setElem, allocBuf_arr]
        split
        · -- the slot that gets the new buffer
          rename_i hsl
          obtain ⟨ha, rfl, _⟩ := hsl
          rw [ha]
          exact Or.inr (if_pos rfl)
        · exact Or.inl (i.deref_allocBuf (List.mem_of_find?_eq_some hn) _ f)
      · exact Or.inl rfl
    · rintro rfl rfl hg
      have hlen := i.liveLen m (List.mem_of_find?_eq_some hm)
      simp only [memSide, hm, setElem_deref, getD_setElem, allocBuf_arr, hlen, hg, and_self, if_pos]
      exact if_pos rfl
  · intro hnone
    have hl : ∀ f', ((List.replicate cfg.nf (none : Option Nat)).set g (some st.heap.nb)).getD f' none =
        if g = f' ∧ f' < cfg.nf then some st.heap.nb else none := by
      intro f'
      rw [getD_set, List.length_replicate]
      split
      · rfl
      · rw [List.getD_eq_getElem?_getD, List.getElem?_replicate]
        split <;> rfl
    constructor
    · unfold memSide
      dsimp only
      rw [List.find?_append]
      cases hn : st.live.find? (fun n => n.key == k) with
      | some n =>
        have hmem := List.mem_of_find?_eq_some hn
        rw [Option.some_or]
        dsimp only
        rw [allocArr_deref, allocArr_arr, allocBuf_na, allocBuf_arr,
          if_neg (Nat.ne_of_lt (i.liveArr n hmem))]
        exact Or.inl (i.deref_allocBuf hmem _ f)
      | none =>
        rw [Option.none_or, List.find?_singleton]
        by_cases hk : (cfg.keyOf q == k) = true
        · rw [if_pos hk]
          dsimp only
          rw [allocArr_deref, allocArr_arr, allocBuf_na, if_pos rfl, hl]
          split
          · exact Or.inr (if_pos rfl)
          · exact Or.inl rfl
        · rw [if_neg hk]
          exact Or.inl rfl
    · rintro rfl rfl hg
      simp only [memSide, List.find?_append, hnone, Option.none_or, List.find?_singleton,
        beq_self_eq_true, if_true, allocArr_deref, allocArr_arr, allocBuf_na, hl, hg, and_self]
      exact if_pos rfl

theorem ingestField_file (q : P) (g : Nat) : (ingestField cfg st q g).file = st.file :=
  ingestField_cases (fun s => s.file = st.file) (fun _ _ _ _ => rfl) (fun _ _ => rfl) fun _ => rfl

/-- field `f` of key `k` reflects `p` in `st`: its file side or its memstore side does -/
def Refl (R : C → P → Prop) (st : State C) (k : Key) (f : Nat) (p : P) : Prop :=
  RO R (fld (st.file k) f) p ∨ RO R (fld (memViewOf st.heap st.live k) f) p

/-- every field of p's row reflects `p` -/
def Has (cfg : Cfg C P) (R : C → P → Prop) (st : State C) (p : P) : Prop :=
  ∀ f, f < cfg.nf → Refl R st (cfg.keyOf p) f p

/-- nothing the table holds reflects `q` -/
def Clean (R : C → P → Prop) (st : State C) (q : P) : Prop := ∀ k f, ¬ Refl R st k f q

theorem clean_init (R : C → P → Prop) (q : P) : Clean R ({} : State C) q :=
  fun _ _ h => h.elim not_ro_none not_ro_none

/-- How what the table reflects changes from `st` to `st'` when the point `pt` (if any) is
    applied: under `Keeps` a field of the table keeps what it reflects; under `Only` it comes to
    reflect no point but `pt`. -/
def ReflStep (cfg : Cfg C P) (R : C → P → Prop) (pt : Option P) (st st' : State C) : Prop :=
  ∀ k f p, (Keeps cfg R → f < cfg.nf → Refl R st k f p → Refl R st' k f p) ∧
    (Only cfg R → pt ≠ some p → Refl R st' k f p → Refl R st k f p)

theorem ReflStep.refl {pt : Option P} : ReflStep cfg R pt st st :=
  fun _ _ _ => ⟨fun _ _ h => h, fun _ _ h => h⟩

theorem ReflStep.trans {pt : Option P} {s1 s2 s3 : State C} (a : ReflStep cfg R pt s1 s2)
    (b : ReflStep cfg R pt s2 s3) : ReflStep cfg R pt s1 s3 :=
  fun k f p => ⟨fun kp hf h => (b k f p).1 kp hf ((a k f p).1 kp hf h),
    fun on hne h => (a k f p).2 on hne ((b k f p).2 on hne h)⟩

theorem reflStep_ingestField (i : Inv cfg st) (q : P) (g : Nat) :
    ReflStep cfg R (some q) st (ingestField cfg st q g) := by
  intro k f p
  simp only [Refl, fld_memView, ingestField_file]
  rcases (memSide_ingestField i q g k f).1 with e | e
  · rw [e]
    exact ⟨fun _ _ h => h, fun _ _ h => h⟩
  · rw [e]
    constructor
    · intro kp _ h
      refine h.imp_right ?_
      rintro ⟨c, hc, hR⟩
      rw [hc]
      exact ⟨_, rfl, kp.upd_keep _ _ _ _ hR⟩
    · intro on hne h
      refine h.imp_right ?_
      rintro ⟨c, hc, hR⟩
      cases hc
      exact (on.upd_only _ _ _ _ hR).resolve_left fun hpq => hne (congrArg some hpq.symm)

theorem ro_mergeRow (kp : Keeps cfg R) {fc mc : Option (Row C)} {f : Nat} (hf : f < cfg.nf) {p : P}
    (h : RO R (fld fc f) p ∨ RO R (fld mc f) p) : RO R ((mergeRow cfg fc mc).getD f none) p := by
  rw [mergeRow_getD fc mc hf]
  rcases h with ⟨a, ha, hR⟩ | ⟨b, hb, hR⟩
  · rw [ha]
    exact kp.merge_l f a _ p hR
  · rw [hb]
    exact kp.merge_r f _ b p hR

theorem ro_mergeRow_only (on : Only cfg R) {fc mc : Option (Row C)} {f : Nat} {q : P}
    (h : RO R ((mergeRow cfg fc mc).getD f none) q) : RO R (fld fc f) q ∨ RO R (fld mc f) q := by
  obtain ⟨c, hc, hR⟩ := h
  rcases Nat.lt_or_ge f cfg.nf with hf | hf
  · rw [mergeRow_getD _ _ hf] at hc
    exact on.merge_only _ _ _ _ _ hc hR
  · rw [mergeRow_getD_ge _ _ hf] at hc
    cases hc

/-- what `fileStore.flush` writes: the merged row cut to the retention window, or — raw
    pass-through, and whenever the memstore has nothing for the key — the file's row as it is -/
theorem flushRow_cases (cfg : Cfg C P) (raw : Bool) (fc mc : Option (Row C)) :
    flushRow cfg raw fc mc = cfg.wr (mergeRow cfg fc mc) ∨
      (mc = none ∧ flushRow cfg raw fc mc = fc) := by
  unfold flushRow
  split
  · exact Or.inr ⟨rfl, rfl⟩
  · split
    · exact Or.inr ⟨rfl, rfl⟩
    · exact Or.inl rfl
  · exact Or.inl rfl

theorem reflStep_flush (raw : Bool) : ReflStep cfg R none st (flush cfg st raw) := by
  intro k f p
  unfold flush
  split
  · exact ⟨fun _ _ h => h, fun _ _ h => h⟩
  · -- the new memstore is empty: the field is what the flush wrote
    have hnew : ∀ {file}, Refl R { st with file := file, live := [] } k f p ↔
        RO R (fld (file k) f) p := fun {_} =>
      ⟨fun h => h.resolve_right not_ro_none, Or.inl⟩
    rw [hnew]
    unfold Refl
    rcases flushRow_cases cfg raw (st.file k) (memViewOf st.heap st.live k) with e | ⟨hmc, e⟩
    · rw [e]
      constructor
      · intro kp hf h
        obtain ⟨c, hc, hR⟩ := ro_mergeRow kp hf h
        obtain ⟨row', c', hw, hg, hR'⟩ := kp.wr_keep _ f c p hc hR
        rw [hw]
        exact ⟨c', hg, hR'⟩
      · rintro on _ ⟨c, hc, hR⟩
        cases hw : cfg.wr (mergeRow cfg (st.file k) (memViewOf st.heap st.live k)) with
        | none =>
          rw [hw] at hc
          cases hc
        | some row' =>
          rw [hw] at hc
          exact ro_mergeRow_only on (on.wr_only _ _ f c p hw hc hR)
    · rw [e, hmc]
      exact ⟨fun _ _ h => h.resolve_right not_ro_none, fun _ _ => Or.inl⟩

theorem reflStep_step (i : Inv cfg st) (e : Ev P) :
    ReflStep cfg R e.point st (step cfg .deep st e).1 := by
  cases e with
  | ingest q =>
    exact ingestFields_induct (Q := ReflStep cfg R (some q) st)
      (fun _ g is hQ => hQ.trans (reflStep_ingestField is q g)) _ st i .refl
  | ingestField q g => exact reflStep_ingestField i q g
  | flush raw => exact reflStep_flush raw
  | scanStart =>
    have le := (copyNodes_deep_spec st.live st.heap i.live_within).1
    intro k f p
    have : Refl R (scanStart .deep st) k f p = Refl R st k f p :=
      congrArg (fun mc => RO R (fld (st.file k) f) p ∨ RO R (fld mc f) p)
        (memViewOf_stable (le.stable i.live_within) k)
    exact ⟨fun _ _ => this.mpr, fun _ _ => this.mp⟩
  | deliver sid k' =>
    simp only [step]
    split <;> exact .refl

theorem has_ingest_self (kp : Keeps cfg R) (i : Inv cfg st) (p : P) :
    Has cfg R (ingest cfg st p) p := by
  -- after the first `n` iterations of the field loop the fields below `n` reflect `p`
  have loop : ∀ n f, f < n → f < cfg.nf →
      Refl R ((List.range n).foldl (fun s g => ingestField cfg s p g) st) (cfg.keyOf p) f p := by
    intro n
    induction n with
    | zero => exact fun f hf => absurd hf (Nat.not_lt_zero f)
    | succ n ih =>
      intro f hf hnf
      rw [List.range_succ, List.foldl_append]
      have is := (good_ingestFields p (List.range n) i).inv
      rcases Nat.lt_succ_iff_lt_or_eq.mp hf with h | h
      · exact (reflStep_ingestField is p n _ f p).1 kp hnf (ih f h hnf)
      · subst h
        have hs := (memSide_ingestField is p f (cfg.keyOf p) f).2 rfl rfl hnf
        exact Or.inr ⟨_, (fld_memView _ _ _).trans hs, kp.upd_self _ _ _⟩
  exact fun f hf => loop cfg.nf f hf hf

theorem has_run (kp : Keeps cfg R) (p : P) :
    ∀ (es : List (Ev P)) (st : State C), Inv cfg st → (Has cfg R st p ∨ Ev.ingest p ∈ es) →
      Has cfg R (run cfg .deep st es).1 p
  | [], _, _, h => h.resolve_right List.not_mem_nil
  | e :: es, _, i, h => by
    apply has_run kp p es _ (inv_step i e)
    rcases h with h | h
    · exact Or.inl fun f hf => (reflStep_step i e _ f p).1 kp hf (h f hf)
    · rcases List.mem_cons.mp h with h | h
      · subst h
        exact Or.inl (has_ingest_self kp i p)
      · exact Or.inr h

theorem has_view (kp : Keeps cfg R) {p : P} (h : Has cfg R st p) {f : Nat} (hf : f < cfg.nf) :
    ∃ row c, view cfg st (cfg.keyOf p) = some row ∧ row.getD f none = some c ∧ R c p := by
  have h0 := h f hf
  unfold Refl at h0
  unfold view
  generalize st.file (cfg.keyOf p) = fc at h0 ⊢
  generalize memViewOf st.heap st.live (cfg.keyOf p) = mc at h0 ⊢
  obtain ⟨c, hc, hR⟩ := ro_mergeRow kp hf h0
  unfold rowOf
  split
  · exact (h0.elim not_ro_none not_ro_none).elim
  · exact ⟨_, c, rfl, hc, hR⟩

theorem clean_run (on : Only cfg R) {q : P} :
    ∀ (es : List (Ev P)) (st : State C), Inv cfg st → (∀ e ∈ es, e.point ≠ some q) → Clean R st q →
      Clean R (run cfg .deep st es).1 q
  | [], _, _, _, h => h
  | e :: es, _, i, hne, h =>
    clean_run on es _ (inv_step i e) (fun e' he' => hne e' (List.mem_cons_of_mem _ he'))
      fun k f hr => h k f ((reflStep_step i e k f q).2 on (hne e List.mem_cons_self) hr)

theorem clean_view (on : Only cfg R) {q : P} (h : Clean R st q) {k : Key} {row : Row C}
    (hv : view cfg st k = some row) {f : Nat} {c : C} (hc : row.getD f none = some c) : ¬ R c q := by
  unfold view rowOf at hv
  split at hv
  · cases hv
  · cases hv
    exact fun hR => h k f (ro_mergeRow_only on ⟨c, hc, hR⟩)

end

end Zeno.Snap
