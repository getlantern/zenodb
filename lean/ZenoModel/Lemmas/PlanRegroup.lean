/-
C11 lemmas, non-pushdown side: partitions pre-aggregate by the params of the GROUP BY
expressions (+ crosstab value + period), the leader re-groups by the query's GROUP BY and
merges the states; the merged state of every output group equals the state of the group
computed directly over all rows (merge homomorphism + regrouping fine → coarse composes).
Also: the spec evaluator only depends on the multiset of its input rows.
-/
import ZenoModel.Lemmas.PlanPushdown

namespace Zeno.PlanLemmas
open Zeno Zeno.Plan

/-- hypotheses of the non-pushdown equivalence on one SELECT -/
structure NPWF (q : Query) : Prop where
  /-- the field expressions are valid and PERCENTILE-free (C05's hypotheses) -/
  fieldsOK : ∀ f ∈ bfields q, f.2.valid = true ∧ f.2.noPtile = true
  /-- GROUP BY expressions read the key through their params only -/
  gbLocal : ∀ g ∈ q.by_, GBLocal g
  /-- no dimension is called `_crosstab` -/
  noCtabParam : "_crosstab" ∉ paramDims q

theorem rewriteAst_names (q : Query) (h : "_crosstab" ∉ paramDims q) :
    ((rewriteAst q).by_.map (·.name)).Nodup := by
  have e1 : ((paramDims q).map dimGB).map (·.name) = paramDims q := by
    rw [List.map_map]
    exact List.map_id'' (fun _ => rfl) _
  simp only [rewriteAst, List.map_append, e1]
  refine List.nodup_append.mpr ⟨nodup_dedup _, ?_, ?_⟩
  · cases q.ctab <;> simp
  · intro a ha b hb e
    cases hc : q.ctab with
    | none => simp [hc] at hb
    | some ct =>
      simp only [hc, List.map_cons, List.map_nil, List.mem_singleton, ctabGB] at hb
      exact h (hb ▸ e ▸ ha)

theorem fine_get {q : Query} (h : "_crosstab" ∉ paramDims q) {g : GroupBy}
    (hg : g ∈ (rewriteAst q).by_) (k : DKey) : (sliceKey (rewriteAst q) k).get g.name = g.eval k :=
  sliceKey_get (rewriteAst_names q h) hg k

theorem ctabOf_fine {q : Query} (h : "_crosstab" ∉ paramDims q) {ct : DKey → String}
    (hc : q.ctab = some ct) (k : DKey) : ctabOf (sliceKey (rewriteAst q) k) = ct k := by
  have := fine_get h (g := ctabGB ct) (by simp [rewriteAst, hc]) k
  simp only [ctabGB] at this
  simp [ctabOf, this]

theorem leaderKey_fine {q : Query} (hq : NPWF q) (k : DKey) :
    leaderKey q (sliceKey (rewriteAst q) k) = sliceKey q k := by
  by_cases hb : q.by_ = []
  · have hp : paramDims q = [] := by simp [paramDims, hb, dedup]
    cases hc : q.ctab <;> simp [leaderKey, sliceKey, rewriteAst, hb, hc, hp, ctabGB]
  · have hemp : q.by_.isEmpty = false := by simpa using hb
    simp only [leaderKey, hemp, Bool.false_eq_true, if_false]
    conv => rhs; simp only [sliceKey, hemp, Bool.false_eq_true, if_false]
    refine filterMap_congr fun g hg => ?_
    rw [hq.gbLocal g hg (sliceKey (rewriteAst q) k) k]
    intro p hp
    have hp' : p ∈ paramDims q := (mem_dedup p _).mpr (List.mem_flatMap.mpr ⟨g, hg, hp⟩)
    exact fine_get hq.noCtabParam (g := dimGB p) (List.mem_append_left _ (List.mem_map_of_mem hp')) k

theorem admits_rewrite (q : Query) (s : Src) : admits (rewriteAst q) s = admits q s := rfl
theorem toPt_rewrite (q : Query) : toPt (rewriteAst q) = toPt q := rfl

theorem cid_fine {q : Query} (hq : NPWF q) (s : Src) (r : PRow) :
    (leaderKey q (gid (rewriteAst q) s r).1, (gid (rewriteAst q) s r).2) = gid q s r := by
  simp only [gid]
  rw [leaderKey_fine hq]
  rfl

/-- leader-side selection of a partition-side group for a column -/
def selF (sel : Option String) (F : DKey × Int) : Bool :=
  match sel with
  | some v => ctabOf F.1 == v
  | none => true

theorem selF_fine {q : Query} (h : "_crosstab" ∉ paramDims q) (s : Src) (sel : Option String)
    (hsel : sel = none ∨ q.ctab.isSome = true) (r : PRow) :
    selF sel (gid (rewriteAst q) s r) = selR q sel r := by
  cases sel with
  | none => simp [selF, selR]
  | some v =>
    cases hc : q.ctab with
    | none => simp [hc] at hsel
    | some ct => simp only [selF, selR, hc, gid, ctabOf_fine h hc]

variable (x : Ext)

theorem mem_map_runStates {β : Type} (q : Query) (s : Src) (φ : DKey × Int → β)
    (parts : List (List PRow)) (b : β) :
    b ∈ (parts.flatMap (runStates x q s)).map (fun m => φ (m.key, m.ts)) ↔
      b ∈ (parts.flatten.filter (admits q s)).map (fun r => φ (gid q s r)) := by
  simp only [runStates, List.map_flatMap, List.map_map, Function.comp_def, List.mem_flatMap,
    List.mem_map, mem_dedup, List.mem_filter, List.mem_flatten]
  constructor
  · rintro ⟨P, hP, F, ⟨r, hr, rfl⟩, rfl⟩
    exact ⟨r, ⟨⟨P, hP, hr.1⟩, hr.2⟩, rfl⟩
  · rintro ⟨r, ⟨⟨P, hP, hr⟩, ha⟩, rfl⟩
    exact ⟨P, hP, _, ⟨r, ⟨hr, ha⟩, rfl⟩, rfl⟩

/-- merging the states of the partition-side groups that satisfy `π`, over all partitions, is
    accumulating the admitted rows whose group satisfies `π` -/
theorem foldl_mrg_runStates (q : Query) (s : Src) (π : DKey × Int → Bool) {e : Ex}
    (hv : e.valid = true) (hp : e.noPtile = true) (parts : List (List PRow)) :
    (((parts.flatMap (runStates x q s)).filter (fun m => π (m.key, m.ts))).map (fun m => m.st e)).foldl
        e.mrg e.empty =
      e.acc x (((parts.flatten.filter (admits q s)).filter (fun r => π (gid q s r))).map (toPt q)) := by
  have hst : ((parts.flatMap (runStates x q s)).filter (fun m => π (m.key, m.ts))).map (fun m => m.st e) =
      (parts.flatMap fun P => ((dedup ((P.filter (admits q s)).map (gid q s))).filter π).map fun F =>
        ((P.filter (admits q s)).filter (fun r => gid q s r == F)).map (toPt q)).map (e.acc x) := by
    simp only [runStates, List.filter_flatMap, List.map_flatMap, List.filter_map, List.map_map]
    rfl
  rw [hst, nway_merge x hv hp]
  apply acc_perm x hv hp
  simp only [List.flatten_eq_flatMap, List.filter_flatMap, List.map_flatMap, List.flatMap_assoc,
    List.flatMap_map, id_eq]
  refine flatMap_perm_congr fun P _ => ?_
  rw [← List.map_flatMap]
  exact (flatMap_classes_perm (gid q s) π _).map _

theorem mkRow_congr (q : Query) (cv : List String) (g : DKey × Int)
    (stf₁ stf₂ : Ex → Option String → List Cell)
    (h : ∀ f ∈ xfields q cv, stf₁ f.ex f.sel = stf₂ f.ex f.sel) :
    mkRow x q cv g stf₁ = mkRow x q cv g stf₂ := by
  have : (xfields q cv).map (fun f => f.ex.val x (stf₁ f.ex f.sel)) =
      (xfields q cv).map (fun f => f.ex.val x (stf₂ f.ex f.sel)) :=
    List.map_congr_left fun f hf => by rw [h f hf]
  simp only [mkRow, this]

theorem xfields_spec (q : Query) (cv : List String) (f : XField) (hf : f ∈ xfields q cv) :
    (∃ b ∈ bfields q, b.2 = f.ex) ∧ (f.sel = none ∨ q.ctab.isSome = true) := by
  unfold xfields at hf
  unfold bfields
  cases hc : q.ctab with
  | none =>
    simp only [hc, List.mem_append, List.mem_map] at hf
    rcases hf with ⟨b, hb, rfl⟩ | hh
    · exact ⟨⟨b, by simp [hb], rfl⟩, Or.inl rfl⟩
    · cases hh' : q.having with
      | none => simp [hh'] at hh
      | some hx =>
        simp only [hh', List.mem_singleton] at hh
        subst hh
        exact ⟨⟨("_having", hx), by simp, rfl⟩, Or.inl rfl⟩
  | some ct =>
    simp only [hc, List.mem_append, List.mem_flatMap, List.mem_map] at hf
    refine ⟨?_, Or.inr rfl⟩
    rcases hf with (⟨v, _, b, hb, rfl⟩ | ht) | hh
    · exact ⟨b, by simp [hb], rfl⟩
    · split at ht
      · obtain ⟨b, hb, rfl⟩ := List.mem_map.mp ht
        exact ⟨b, by simp [hb], rfl⟩
      · cases ht
    · cases hh' : q.having with
      | none => simp [hh'] at hh
      | some hx =>
        simp only [hh', List.mem_singleton] at hh
        subst hh
        exact ⟨("_having", hx), by simp, rfl⟩

theorem NPWF.xfield_ok {q : Query} (hq : NPWF q) {cv : List String} {f : XField} (hf : f ∈ xfields q cv) :
    f.ex.valid = true ∧ f.ex.noPtile = true := by
  obtain ⟨⟨b, hb, he⟩, _⟩ := xfields_spec q cv f hf
  exact he ▸ hq.fieldsOK b hb

theorem mkRows_perm (q : Query) (cv : List String) {ids₁ ids₂ : List (DKey × Int)}
    {stf₁ stf₂ : DKey × Int → Ex → Option String → List Cell} (hids : ∀ g, g ∈ ids₁ ↔ g ∈ ids₂)
    (hst : ∀ g, ∀ f ∈ xfields q cv, stf₁ g f.ex f.sel = stf₂ g f.ex f.sel) :
    ((dedup ids₁).filterMap (fun g => mkRow x q cv g (stf₁ g))).Perm
      ((dedup ids₂).filterMap (fun g => mkRow x q cv g (stf₂ g))) := by
  rw [filterMap_congr fun g _ => mkRow_congr x q cv g _ _ (hst g)]
  exact (dedup_perm hids).filterMap _

theorem runPre_perm {q : Query} (hq : NPWF q) (s : Src) (cv : List String) {r₁ r₂ : List PRow}
    (p : r₁.Perm r₂) : (runPre x q s cv r₁).Perm (runPre x q s cv r₂) := by
  have pf : (r₁.filter (admits q s)).Perm (r₂.filter (admits q s)) := p.filter _
  exact mkRows_perm x q cv (fun g => (pf.map _).mem_iff) fun g f hf =>
    acc_perm x (hq.xfield_ok hf).1 (hq.xfield_ok hf).2 (((pf.filter _).filter _).map _)

theorem cvOf_perm (q : Query) (s : Src) {r₁ r₂ : List PRow} (p : r₁.Perm r₂) :
    cvOf q s r₁ = cvOf q s r₂ := by
  refine strSort_perm ?_
  unfold ctabValues
  cases q.ctab with
  | none => exact List.Perm.refl _
  | some ct => exact dedup_perm fun v => ((p.filter _).map _).mem_iff

theorem run_perm {q : Query} (hq : NPWF q) (ho : emptyOlo q.olo) (s : Src) {r₁ r₂ : List PRow}
    (p : r₁.Perm r₂) : (run x q s r₁).Perm (run x q s r₂) := by
  unfold run
  rw [olo_empty ho, olo_empty ho, cvOf_perm q s p]
  exact runPre_perm x hq s _ p

/-- every SELECT of the chain meets the hypotheses of the non-pushdown equivalence and has
    no ORDER BY / LIMIT -/
def TreeNP : QTree → Prop
  | .table q => NPWF q ∧ emptyOlo q.olo
  | .sub q inner => NPWF q ∧ emptyOlo q.olo ∧ TreeNP inner

theorem TreeNP.top {t : QTree} (h : TreeNP t) : NPWF t.top ∧ emptyOlo t.top.olo := by
  cases t with
  | table q => exact h
  | sub q inner => exact ⟨h.1, h.2.1⟩

/-- with pass-through fields the exact-match rule picks the column of the expression itself,
    once, however the other select expressions overlap with it -/
theorem pickExact_self (st : Ex → List Cell) (e : Ex) :
    ∀ (fields : List Ex), e ∈ fields → pickExact (fields.map (fun f => (f, st f))) e = [st e] := by
  intro fields
  induction fields with
  | nil => intro h; cases h
  | cons f fs ih =>
    intro h
    simp only [pickExact, List.map_cons, dedupCols, List.filter_cons, List.filter_filter]
    by_cases hfe : f = e
    · subst hfe
      simp [bne]
    · have hne : (f == e) = false := by simpa using hfe
      rw [← ih ((List.mem_cons.mp h).resolve_left (Ne.symm hfe)), pickExact, hne]
      refine congrArg _ (List.filter_congr fun c _ => ?_)
      by_cases hc : c.1 = e <;> simp [hc, Ne.symm hfe]

theorem leaderStateCols_eq (fields : List Ex) (e : Ex) (he : e ∈ fields) (sel : Option String)
    (ms : List SRow) : leaderStateCols fields e sel ms = leaderState e sel ms := by
  unfold leaderStateCols leaderState
  simp only [pickExact_self _ e fields he, ← List.map_eq_flatMap]

end Zeno.PlanLemmas
