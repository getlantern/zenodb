/-
`Sequence.SubMerge` as a whole (direct sub-merger, no shift, no stride), pointwise in terms of the
original operands and the query window; many sources sub-merged into one receiver (what
`core.Group` does for one output column of one group) and the raw-point reading of the result.
-/
import ZenoModel.Lemmas.SubMergeSemBody
namespace Zeno

/-- the source period ends of the out period ending at `T` — `T, T − otherRes, …,
    T − (k−1)·otherRes`, i.e. those in `(T − k·otherRes, T]`, newest first — that lie inside the
    window `(asOf, hi]` -/
def bucketTimes (otherRes : Int) (k : Nat) (asOf hi T : Int) : List Int :=
  ((List.range k).map (fun (j : Nat) => T - (j : Int) * otherRes)).filter
    (fun t => decide (asOf < t ∧ t ≤ hi))

/-- merge the source's states of the periods `ts` onto `acc`, in that order -/
def mergeOnto (e : Ex) (otherRes : Int) (other : Sq) (ts : List Int) (acc : List Cell) : List Cell :=
  ts.foldl (fun a t => e.mrg a (other.at e otherRes t)) acc

/-- the side conditions on resolutions and window (all established by `planLocal`/`groupRows`) -/
structure SMWindow (res otherRes : Int) (k : Nat) (asOf hi : Int) : Prop where
  otherResPos : 0 < otherRes
  kPos : 0 < k
  resEq : res = (k : Int) * otherRes
  /-- `0` is Go's zero time, which `Truncate` reads as "no bound" -/
  asOfPos : 0 < asOf
  asOfLt : asOf < hi
  asOfAl : asOf % otherRes = 0
  hiAl : hi % otherRes = 0

theorem SMWindow.resPos {res otherRes : Int} {k : Nat} {asOf hi : Int} (w : SMWindow res otherRes k asOf hi) :
    0 < res := by
  rw [w.resEq]
  exact Int.mul_pos (by have := w.kPos; omega) w.otherResPos

/-- the receiver is empty or lies on the out grid anchored at `hi`, in positive time, with
    well-formed states -/
def RecvGrid (e : Ex) (res hi : Int) : Sq → Prop
  | none => True
  | some q => (hi - q.hi) % res = 0 ∧ 0 < q.hi ∧ CellsWF e q.cells

/-- nothing outside the window -/
def InWindow (e : Ex) (res asOf hi : Int) (s : Sq) : Prop :=
  ∀ T, ¬ (asOf < T ∧ T ≤ hi) → s.at e res T = e.empty

theorem recvGrid_wf {e : Ex} {res hi : Int} {s : Sq} (h : RecvGrid e res hi s) : SqWF e s := by
  cases s with
  | none => trivial
  | some q => exact h.2.2

theorem recvGrid_off {e : Ex} {res hi : Int} {s : Sq} (h : RecvGrid e res hi s) {T : Int}
    (hT : ¬ (hi - T) % res = 0) : s.at e res T = e.empty := by
  cases s with
  | none => rfl
  | some b =>
    cases b with
    | mk bh bc => rw [at_some, if_neg (fun hc => hT (grid_trans h.1 hc.1))]

theorem truncate_window (e : Ex) {res r : Int} {k : Nat} {asOf hi : Int} (w : SMWindow res r k asOf hi)
    (ob : Seq) (hob : SeqOk r ob) (t : Int) :
    (Sq.truncate (some ob) r asOf hi).at e r t =
      if asOf < t ∧ t ≤ hi then Sq.at (some ob) e r t else e.empty := by
  have ha := w.asOfPos
  have hlt := w.asOfLt
  rw [sem_truncate e w.otherResPos ob asOf hi t,
    roundUntilDown_aligned w.otherResPos (by omega) (emod_sub_of hob.aligned w.asOfAl),
    roundUntilDown_aligned w.otherResPos (by omega) (emod_sub_of hob.aligned w.hiAl)]
  have h1 : ¬ asOf = 0 := by omega
  have h2 : ¬ hi = 0 := by omega
  simp only [h1, h2, false_or]

/-- the receiver restricted to the window, on out-grid points: the bucket that `asOf` cuts is
    kept (the bound is rounded down on the receiver's grid) -/
theorem recv_truncate_at (e : Ex) {res otherRes : Int} {k : Nat} {asOf hi : Int}
    (w : SMWindow res otherRes k asOf hi) (q : Seq) (hq : RecvGrid e res hi (some q)) (T : Int)
    (hT : (hi - T) % res = 0) :
    (Sq.truncate (some q) res asOf hi).at e res T =
      if (roundUntilDown asOf res q.hi = 0 ∨ asOf < T) ∧ T ≤ hi then Sq.at (some q) e res T else e.empty := by
  have h := w.resPos
  have ha := w.asOfPos
  have hlt := w.asOfLt
  obtain ⟨hg, _⟩ := hq
  obtain ⟨s1, s2, s3⟩ := roundUntilDown_bounds (t := asOf) (hi := q.hi) h (by omega)
  rw [sem_truncate e h q asOf hi T, roundUntilDown_aligned h (by omega) (grid_symm hg)]
  generalize roundUntilDown asOf res q.hi = A at *
  have h2 : ¬ hi = 0 := by omega
  simp only [h2, false_or]
  by_cases hA : A = 0
  · simp only [hA, true_or]
  · -- `A ≤ asOf < A + res`, and `T` is on the grid of `A`
    have hiff : A < T ↔ asOf < T := by
      constructor
      · intro hAT
        have := grid_gap (grid_trans (grid_symm hT) (grid_trans hg s1)) (by omega)
        omega
      · intro haT; omega
    simp only [hA, false_or, hiff]

theorem bucket_outside {res otherRes : Int} {k : Nat} {asOf hi : Int} (w : SMWindow res otherRes k asOf hi)
    (T : Int) (hT : (hi - T) % res = 0) (hout : ¬ (asOf < T ∧ T ≤ hi)) (j : Nat) (hj : j < k) :
    ¬ (asOf < T - (j : Int) * otherRes ∧ T - (j : Int) * otherRes ≤ hi) := by
  have hs := slot_offset_bounds w.otherResPos w.resEq hj
  intro ⟨a, b⟩
  exact hout ⟨by omega, le_of_grid_lt (grid_symm hT) (by omega)⟩

theorem fold_bucket {e : Ex} (hv : e.valid = true) (hp : e.noPtile = true) (otherRes : Int) (k : Nat)
    (asOf hi T : Int) (other : Sq) (hwo : SqWF e other) (src : Int → List Cell)
    (hsrc : ∀ t, src t = if asOf < t ∧ t ≤ hi then other.at e otherRes t else e.empty)
    (acc : List Cell) (hw : WF e acc) :
    (List.range k).foldl (fun a (j : Nat) => e.mrg a (src (T - (j : Int) * otherRes))) acc =
      mergeOnto e otherRes other (bucketTimes otherRes k asOf hi T) acc := by
  unfold mergeOnto bucketTimes
  rw [List.foldl_filter, List.foldl_map]
  refine foldl_congr_on _ _ (WF e) _ acc hw (fun a ha j _ => ?_)
  rw [hsrc]
  by_cases hW : asOf < T - (j : Int) * otherRes ∧ T - (j : Int) * otherRes ≤ hi
  · simp only [hW, and_self, decide_true, if_true]
    exact ⟨trivial, mrg_wf hv hp ha (sqAt_wf hwo otherRes _)⟩
  · simp only [hW, decide_false, if_false, Bool.false_eq_true]
    exact ⟨mrg_empty_right hv hp ha, ha⟩

theorem mem_bucketTimes {otherRes : Int} (h : 0 < otherRes) (k : Nat) (asOf hi T t : Int) :
    t ∈ bucketTimes otherRes k asOf hi T ↔
      (T - (k : Int) * otherRes < t ∧ t ≤ T ∧ (T - t) % otherRes = 0) ∧ asOf < t ∧ t ≤ hi := by
  unfold bucketTimes
  rw [List.mem_filter, List.mem_map]
  simp only [decide_eq_true_eq]
  constructor
  · intro ⟨⟨j, hj, hjt⟩, hw⟩
    have hs := slot_offset_bounds h rfl (List.mem_range.mp hj)
    refine ⟨⟨by omega, by omega, ?_⟩, hw⟩
    rw [show T - t = (j : Int) * otherRes by omega]
    exact Int.mul_emod_left _ _
  · intro ⟨⟨h1, h2, h3⟩, hw⟩
    obtain ⟨j, hj⟩ := grid_index h h3 h2
    refine ⟨⟨j, ?_, by omega⟩, hw⟩
    rw [List.mem_range]
    exact (natCast_mul_lt h).mp (by omega)

/-- with the side conditions of a window, `bucketTimes` holds the source-grid period ends inside the
    window and the bucket `(T − res, T]` -/
theorem mem_bucketTimes_iff {res otherRes : Int} {k : Nat} {asOf hi : Int} (w : SMWindow res otherRes k asOf hi)
    (T t : Int) (hT : (hi - T) % res = 0) :
    t ∈ bucketTimes otherRes k asOf hi T ↔
      t % otherRes = 0 ∧ (asOf < t ∧ t ≤ hi) ∧ T - res < t ∧ t ≤ T := by
  have hTal : T % otherRes = 0 := by
    have := emod_sub_of w.hiAl (emod_of_mul k (by rw [← w.resEq]; exact hT))
    rwa [Int.sub_sub_self] at this
  rw [mem_bucketTimes w.otherResPos, ← w.resEq]
  constructor
  · intro ⟨⟨b1, b2, b3⟩, b4⟩
    have := emod_sub_of hTal b3
    rw [Int.sub_sub_self] at this
    exact ⟨this, b4, b1, b2⟩
  · intro ⟨a1, a2, a3, a4⟩
    exact ⟨⟨a3, a4, emod_sub_of hTal a1⟩, a2⟩

theorem nodup_bucketTimes {otherRes : Int} (h : 0 < otherRes) (k : Nat) (asOf hi T : Int) :
    (bucketTimes otherRes k asOf hi T).Nodup := by
  unfold bucketTimes
  apply List.Pairwise.filter
  apply List.Pairwise.map _ _ List.pairwise_lt_range
  intro a b hab
  have : (a : Int) * otherRes < (b : Int) * otherRes := Int.mul_lt_mul_of_pos_right (by omega) h
  show T - (a : Int) * otherRes ≠ T - (b : Int) * otherRes
  omega

theorem subMerge_miss (e : Ex) (hs : e.shiftOf = 0) (res otherRes : Int) (s other : Sq) (p : Pt)
    (asOf hi : Int) (h : (other.truncate otherRes asOf hi).numPeriods = 0) :
    Sq.subMerge e e (.direct e) res otherRes s other p asOf hi 0 = s := by
  rw [subMerge_direct_eq e hs]
  cases htr : other.truncate otherRes asOf hi with
  | none => rfl
  | some o0 =>
    rw [htr] at h
    exact if_pos h

theorem mergeOnto_miss {e : Ex} (hv : e.valid = true) (hp : e.noPtile = true) {res otherRes : Int} {k : Nat}
    {asOf hi : Int} (w : SMWindow res otherRes k asOf hi) (other : Sq) (ho : SqOk otherRes other)
    (h : (other.truncate otherRes asOf hi).numPeriods = 0) (T : Int) (acc : List Cell) (hw : WF e acc) :
    mergeOnto e otherRes other (bucketTimes otherRes k asOf hi T) acc = acc := by
  apply foldl_mrg_empty hv hp _ _ _ hw
  intro t ht
  cases other with
  | none => rfl
  | some ob =>
    have hwin := truncate_window e w ob ho t
    rw [if_pos (by simpa using (List.mem_filter.mp ht).2)] at hwin
    rw [← hwin]
    cases htr : Sq.truncate (some ob) otherRes asOf hi with
    | none => rfl
    | some o0 =>
      rw [htr] at h
      cases o0 with
      | mk a b =>
        rw [at_some, List.eq_nil_of_length_eq_zero (show b.length = 0 from h)]
        simp

theorem recv_truncate_inv {e : Ex} {res hi : Int} (h : 0 < res) (s : Sq) (hr : RecvGrid e res hi s) (a b : Int) :
    SqWF e (s.truncate res a b) ∧ ∀ r, s.truncate res a b = some r → (hi - r.hi) % res = 0 := by
  refine ⟨truncate_wf h s (recvGrid_wf hr) a b, fun r hts => ?_⟩
  cases s with
  | none => cases hts
  | some q => exact grid_trans hr.1 (truncate_some e h hts).1

theorem truncated_source_facts (e : Ex) {res otherRes : Int} {k : Nat} {asOf hi : Int} (w : SMWindow res otherRes k asOf hi)
    (ob o0 : Seq) (hob : SeqOk otherRes ob) (hwo : CellsWF e ob.cells)
    (htr : Sq.truncate (some ob) otherRes asOf hi = some o0) :
    0 < o0.hi ∧ o0.hi % otherRes = 0 ∧ CellsWF e o0.cells ∧
      0 < (if Sq.asOf (some ob) otherRes < asOf then asOf else Sq.asOf (some ob) otherRes) ∧
      ∀ t, t ≤ (if Sq.asOf (some ob) otherRes < asOf then asOf else Sq.asOf (some ob) otherRes) →
        Sq.at (some o0) e otherRes t = e.empty := by
  have hap := w.asOfPos
  obtain ⟨t1, t2, t3⟩ := truncate_some e w.otherResPos htr
  rw [roundUntilDown_aligned w.otherResPos (by omega) (emod_sub_of hob.aligned w.asOfAl)] at t3
  have hU : asOf < o0.hi := t3 (by omega)
  refine ⟨by omega, ?_, t2 hwo, by split <;> omega, ?_⟩
  · rw [show o0.hi = ob.hi - (ob.hi - o0.hi) by omega]
    exact emod_sub_of hob.aligned t1
  · intro t ht
    have hwin := truncate_window e w ob hob t
    rw [htr] at hwin
    rw [hwin]
    split
    · apply at_beyond e w.otherResPos ob t ob.cells.length (Int.le_refl _)
      have hasof : Sq.asOf (some ob) otherRes = ob.hi - (ob.cells.length : Int) * otherRes := rfl
      split at ht <;> omega
    · rfl

/-- the source has a period inside the window.  The hypothesis of the pointwise part says what
    truncating the receiver does at `T`: it holds for a receiver inside the window
    (`recv_inWindow_at`) and for any receiver when `res ≤ asOf`. -/
theorem subMerge_hit {e : Ex} (hv : e.valid = true) (hp : e.noPtile = true) (hs : e.shiftOf = 0)
    {res otherRes : Int} {k : Nat} {asOf hi : Int} (w : SMWindow res otherRes k asOf hi)
    (s other : Sq) (p : Pt) (ho : SqOk otherRes other) (hwo : SqWF e other) (hrecv : RecvGrid e res hi s)
    (hhit : (other.truncate otherRes asOf hi).numPeriods ≠ 0) :
    RecvGrid e res hi (Sq.subMerge e e (.direct e) res otherRes s other p asOf hi 0) ∧
    ∀ T, (hi - T) % res = 0 →
      (s.truncate res asOf hi).at e res T = (if asOf < T ∧ T ≤ hi then s.at e res T else e.empty) →
      (Sq.subMerge e e (.direct e) res otherRes s other p asOf hi 0).at e res T =
        if asOf < T ∧ T ≤ hi
        then mergeOnto e otherRes other (bucketTimes otherRes k asOf hi T) (s.at e res T)
        else e.empty := by
  cases other with
  | none => exact absurd rfl hhit
  | some ob =>
  have hwin := truncate_window e w ob ho
  rw [subMerge_direct_eq e hs]
  cases htr : Sq.truncate (some ob) otherRes asOf hi with
  | none => rw [htr] at hhit; exact absurd rfl hhit
  | some o0 =>
    rw [htr] at hhit hwin
    simp only
    rw [if_neg (show ¬ o0.cells.length = 0 from hhit)]
    obtain ⟨u1, u2, u3, u4, u5⟩ := truncated_source_facts e w ob o0 ho hwo htr
    obtain ⟨v1, v2⟩ := recv_truncate_inv w.resPos s hrecv asOf hi
    refine ⟨smBody_inv hv hp w.resPos _ _ o0 p hi u1 u4 u3 v1 v2, fun T hT hA => ?_⟩
    show Sq.at (some (smBody e res otherRes (s.truncate res asOf hi) _ o0 p hi)) e res T = _
    rw [smBody_at hv hp w.otherResPos w.kPos w.resEq _ _ o0 p hi w.hiAl u1 u2 u4 u5 u3 v1 v2 T hT, hA]
    by_cases hW : asOf < T ∧ T ≤ hi
    · rw [if_pos hW, if_pos hW]
      exact fold_bucket hv hp otherRes k asOf hi T (some ob) hwo _ hwin _ (sqAt_wf (recvGrid_wf hrecv) res T)
    · rw [if_neg hW, if_neg hW]
      apply foldl_mrg_empty hv hp _ _ _ (wf_empty e)
      intro j hj
      rw [hwin, if_neg (bucket_outside w T hT hW j (List.mem_range.mp hj))]

theorem recv_inWindow_at (e : Ex) {res otherRes : Int} {k : Nat} {asOf hi : Int}
    (w : SMWindow res otherRes k asOf hi) (s : Sq) (hg : RecvGrid e res hi s) (hin : InWindow e res asOf hi s)
    (T : Int) (hT : (hi - T) % res = 0) :
    (s.truncate res asOf hi).at e res T = if asOf < T ∧ T ≤ hi then s.at e res T else e.empty := by
  cases s with
  | none => simp [Sq.truncate, at_none]
  | some q =>
    rw [recv_truncate_at e w q hg T hT]
    by_cases hW : asOf < T ∧ T ≤ hi
    · rw [if_pos hW, if_pos ⟨Or.inr hW.1, hW.2⟩]
    · rw [if_neg hW, hin T hW]
      split <;> rfl

theorem sem_subMerge_lem {e : Ex} (hv : e.valid = true) (hp : e.noPtile = true) (hs : e.shiftOf = 0)
    {res otherRes : Int} {k : Nat} {asOf hi : Int} (w : SMWindow res otherRes k asOf hi)
    (s other : Sq) (p : Pt) (ho : SqOk otherRes other) (hwo : SqWF e other)
    (hg : RecvGrid e res hi s) (hin : InWindow e res asOf hi s) (T : Int) (hT : (hi - T) % res = 0) :
    (Sq.subMerge e e (.direct e) res otherRes s other p asOf hi 0).at e res T =
      if asOf < T ∧ T ≤ hi
      then mergeOnto e otherRes other (bucketTimes otherRes k asOf hi T) (s.at e res T)
      else e.empty := by
  by_cases hhit : (other.truncate otherRes asOf hi).numPeriods = 0
  · rw [subMerge_miss e hs _ _ _ _ _ _ _ hhit]
    by_cases hW : asOf < T ∧ T ≤ hi
    · rw [if_pos hW, mergeOnto_miss hv hp w other ho hhit T _ (sqAt_wf (recvGrid_wf hg) res T)]
    · rw [if_neg hW, hin T hW]
  · exact (subMerge_hit hv hp hs w s other p ho hwo hg hhit).2 T hT
      (recv_inWindow_at e w s hg hin T hT)

theorem subMerge_inv_lem {e : Ex} (hv : e.valid = true) (hp : e.noPtile = true) (hs : e.shiftOf = 0)
    {res otherRes : Int} {k : Nat} {asOf hi : Int} (w : SMWindow res otherRes k asOf hi)
    (s other : Sq) (p : Pt) (ho : SqOk otherRes other) (hwo : SqWF e other)
    (hg : RecvGrid e res hi s) (hin : InWindow e res asOf hi s) :
    RecvGrid e res hi (Sq.subMerge e e (.direct e) res otherRes s other p asOf hi 0) ∧
      InWindow e res asOf hi (Sq.subMerge e e (.direct e) res otherRes s other p asOf hi 0) := by
  have hgrid : RecvGrid e res hi (Sq.subMerge e e (.direct e) res otherRes s other p asOf hi 0) := by
    by_cases hhit : (other.truncate otherRes asOf hi).numPeriods = 0
    · rw [subMerge_miss e hs _ _ _ _ _ _ _ hhit]; exact hg
    · exact (subMerge_hit hv hp hs w s other p ho hwo hg hhit).1
  refine ⟨hgrid, fun T hW => ?_⟩
  by_cases hT : (hi - T) % res = 0
  · rw [sem_subMerge_lem hv hp hs w s other p ho hwo hg hin T hT, if_neg hW]
  · exact recvGrid_off hgrid hT

theorem foldl_acc_append (x : Ext) (e : Ex) {α : Type} (step : List Cell → α → List Cell) (pts : α → List Pt) :
    ∀ (l : List α) (pre : List Pt), (∀ i ∈ l, ∀ pre, step (e.acc x pre) i = e.acc x (pre ++ pts i)) →
      l.foldl step (e.acc x pre) = e.acc x (pre ++ (l.map pts).flatten) := by
  intro l
  induction l with
  | nil => intro pre _; simp
  | cons i l ih =>
    intro pre h
    simp only [List.foldl_cons, List.map_cons, List.flatten_cons]
    rw [h i (by simp), ih _ (fun i' hi' => h i' (by simp [hi'])), List.append_assoc]

theorem mergeOnto_acc (x : Ext) {e : Ex} (hv : e.valid = true) (hp : e.noPtile = true) (otherRes : Int)
    (other : Sq) (pts : Int → List Pt) (ts : List Int) (pre : List Pt)
    (h : ∀ t ∈ ts, other.at e otherRes t = e.acc x (pts t)) :
    mergeOnto e otherRes other ts (e.acc x pre) = e.acc x (pre ++ (ts.map pts).flatten) :=
  foldl_acc_append x e _ pts ts pre fun t ht pre => by rw [h t ht, mrg_acc_append x hv hp]

/-- one source of a group: the source column and the metadata of its row -/
abbrev Src := Sq × Pt

/-- `core.Group`'s accumulation of one output column of one group: `SubMerge` of each
    contributing scan row's source column, one after the other -/
def subMergeAll (e : Ex) (res otherRes asOf hi : Int) (srcs : List Src) (init : Sq) : Sq :=
  srcs.foldl (fun acc op => Sq.subMerge e e (.direct e) res otherRes acc op.1 op.2 asOf hi 0) init

/-- merge, source after source, the states of the periods `ts` onto `acc` -/
def mergeAllOnto (e : Ex) (otherRes : Int) (srcs : List Src) (ts : List Int) (acc : List Cell) : List Cell :=
  srcs.foldl (fun a op => mergeOnto e otherRes op.1 ts a) acc

theorem sem_subMergeAll_lem {e : Ex} (hv : e.valid = true) (hp : e.noPtile = true) (hs : e.shiftOf = 0)
    {res otherRes : Int} {k : Nat} {asOf hi : Int} (w : SMWindow res otherRes k asOf hi) :
    ∀ (srcs : List Src) (init : Sq), (∀ op ∈ srcs, SqOk otherRes op.1 ∧ SqWF e op.1) →
      RecvGrid e res hi init → InWindow e res asOf hi init →
      (RecvGrid e res hi (subMergeAll e res otherRes asOf hi srcs init) ∧
       InWindow e res asOf hi (subMergeAll e res otherRes asOf hi srcs init)) ∧
      ∀ T, (hi - T) % res = 0 →
        (subMergeAll e res otherRes asOf hi srcs init).at e res T =
          if asOf < T ∧ T ≤ hi
          then mergeAllOnto e otherRes srcs (bucketTimes otherRes k asOf hi T) (init.at e res T)
          else e.empty := by
  intro srcs
  induction srcs with
  | nil =>
    intro init _ hg hin
    refine ⟨⟨hg, hin⟩, fun T _ => ?_⟩
    simp only [subMergeAll, mergeAllOnto, List.foldl_nil]
    split
    · rfl
    · rename_i hW; exact hin T hW
  | cons op srcs ih =>
    intro init hall hg hin
    obtain ⟨ho, hwo⟩ := hall op (by simp)
    obtain ⟨ig, iin⟩ := subMerge_inv_lem hv hp hs w init op.1 op.2 ho hwo hg hin
    obtain ⟨inv, hat⟩ := ih _ (fun o ho' => hall o (by simp [ho'])) ig iin
    refine ⟨inv, fun T hT => ?_⟩
    have h1 := hat T hT
    simp only [subMergeAll, List.foldl_cons, mergeAllOnto] at h1 ⊢
    rw [h1, sem_subMerge_lem hv hp hs w init op.1 op.2 ho hwo hg hin T hT]
    by_cases hW : asOf < T ∧ T ≤ hi
    · simp only [hW, and_self, if_true]
    · simp only [hW, if_false]

/-- all the raw points of the members `l` (e.g. scan rows) in the periods `ts`, member by member,
    period by period -/
def memberPoints {ι : Type} (pts : ι → Int → List Pt) (l : List ι) (ts : List Int) : List Pt :=
  (l.map (fun i => (ts.map (pts i)).flatten)).flatten

theorem mergeAllOnto_acc (x : Ext) {e : Ex} (hv : e.valid = true) (hp : e.noPtile = true) (otherRes : Int)
    {ι : Type} (g : ι → Src) (pts : ι → Int → List Pt) (ts : List Int) (l : List ι) (pre : List Pt)
    (h : ∀ i ∈ l, ∀ t ∈ ts, (g i).1.at e otherRes t = e.acc x (pts i t)) :
    mergeAllOnto e otherRes (l.map g) ts (e.acc x pre) = e.acc x (pre ++ memberPoints pts l ts) := by
  unfold mergeAllOnto memberPoints
  rw [List.foldl_map]
  exact foldl_acc_append x e _ (fun i => (ts.map (pts i)).flatten) l pre fun i hi pre =>
    mergeOnto_acc x hv hp otherRes (g i).1 (pts i) ts pre (h i hi)

end Zeno
