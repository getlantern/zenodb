/-
Characterisation of the column spec: which rows a period accumulates; flushes are invisible
to the spec.
-/
import ZenoModel.Lemmas.Column
namespace Zeno

/-- the rows (in arrival order) that the spec accumulates into period `T`: rows of accepted
    points whose timestamp rounds up to `T` -/
def rowsFor (cfg : ColCfg) (T : Int) : Int → List ColOp → List Pt
  | _, [] => []
  | now, .ingest ts pt :: r =>
      if accepted cfg now ts then
        (if roundUp ts cfg.res = T then [pt] else []) ++ rowsFor cfg T (max now ts) r
      else rowsFor cfg T now r
  | now, .tick ts :: r => rowsFor cfg T (if accepted cfg now ts then max now ts else now) r
  | now, .late _ :: r => rowsFor cfg T now r
  | now, .flush _ :: r => rowsFor cfg T now r

theorem spec_foldl_cells (x : Ext) (cfg : ColCfg) (T : Int) (ops : List ColOp) :
    ∀ s : ColSpec, (ops.foldl (ColSpec.step x cfg) s).cells T =
      (rowsFor cfg T s.now ops).foldl (cfg.e.upd x) (s.cells T) := by
  induction ops with
  | nil => intro s; rfl
  | cons op r ih =>
    intro s
    simp only [List.foldl_cons]
    rw [ih]
    cases op with
    | ingest ts pt =>
      simp only [ColSpec.step, rowsFor]
      split
      · simp only
        split
        · rename_i hP
          simp [hP]
        · rename_i hP
          have : ¬ roundUp ts cfg.res = T := fun h => hP h.symm
          simp [this]
      · rfl
    | tick ts =>
      simp only [ColSpec.step, rowsFor]
      split <;> rfl
    | late ts => rfl
    | flush raw => rfl

/-- the spec's state of period `T` is the accumulation, from the empty state, of exactly the
    rows of accepted points whose timestamp rounds up to `T`, each once, in arrival order -/
theorem spec_cells_eq_acc (x : Ext) (cfg : ColCfg) (ops : List ColOp) (T : Int) :
    (ColSpec.run x cfg ops).cells T = cfg.e.acc x (rowsFor cfg T 0 ops) := by
  unfold ColSpec.run
  rw [spec_foldl_cells]
  rfl

/-- dropping the flush steps of a script -/
def noFlush : List ColOp → List ColOp
  | [] => []
  | .flush _ :: r => noFlush r
  | op :: r => op :: noFlush r

theorem spec_ignores_flush (x : Ext) (cfg : ColCfg) (ops : List ColOp) :
    ∀ s : ColSpec, ops.foldl (ColSpec.step x cfg) s = (noFlush ops).foldl (ColSpec.step x cfg) s := by
  induction ops with
  | nil => intro s; rfl
  | cons op r ih =>
    intro s
    cases op with
    | flush raw => simp only [List.foldl_cons, noFlush, ColSpec.step]; exact ih s
    | ingest ts pt => simp only [List.foldl_cons, noFlush]; exact ih _
    | tick ts => simp only [List.foldl_cons, noFlush]; exact ih _
    | late ts => simp only [List.foldl_cons, noFlush]; exact ih _

theorem spec_run_noFlush (x : Ext) (cfg : ColCfg) {ops₁ ops₂ : List ColOp} (h : noFlush ops₁ = noFlush ops₂) :
    ColSpec.run x cfg ops₁ = ColSpec.run x cfg ops₂ := by
  unfold ColSpec.run
  rw [spec_ignores_flush, spec_ignores_flush x cfg ops₂, h]

theorem opsPos_noFlush : ∀ {ops : List ColOp}, OpsPos ops → OpsPos (noFlush ops)
  | [], _ => trivial
  | .flush _ :: r, h => opsPos_noFlush (ops := r) h
  | .ingest _ _ :: r, h => ⟨h.1, opsPos_noFlush (ops := r) h.2⟩
  | .tick _ :: r, h => ⟨h.1, opsPos_noFlush (ops := r) h.2⟩
  | .late _ :: r, h => opsPos_noFlush (ops := r) h

theorem opsPos_append : ∀ {a b : List ColOp}, OpsPos a → OpsPos b → OpsPos (a ++ b)
  | [], _, _, hb => hb
  | .flush _ :: r, _, ha, hb => opsPos_append (a := r) ha hb
  | .ingest _ _ :: r, _, ha, hb => ⟨ha.1, opsPos_append (a := r) ha.2 hb⟩
  | .tick _ :: r, _, ha, hb => ⟨ha.1, opsPos_append (a := r) ha.2 hb⟩
  | .late _ :: r, _, ha, hb => opsPos_append (a := r) ha hb

theorem noFlush_append (a b : List ColOp) : noFlush (a ++ b) = noFlush a ++ noFlush b := by
  induction a with
  | nil => rfl
  | cons op r ih => cases op <;> simp [noFlush, ih]

end Zeno
