/-
`core.Group` (`groupRows`): an upsert per scan row into the output row of the row's sliced key,
read column by column; keys, width and columns of the rows it returns (`groupRows_keys`,
`groupRows_width`, `groupRows_col_is_cell`); the cell of a selected field that is a table field
(direct sub-merger); that `planLocal` establishes the side conditions on resolutions and window
(`planLocal_window`); printed identity (`sameStr_iff` and its three laws) and `dedupInputs` by
position, for `oneHot_of_table_aggregate`.
-/
import ZenoModel.Lemmas.SubMergeSem
import ZenoModel.Model.Query
namespace Zeno

/-- the columns of the output row with key `k` (`init` when there is none yet) -/
def colsOf (init : List Sq) (out : List Row) (k : Key) : List Sq :=
  match out.find? (fun o => o.key == k) with
  | some o => o.cols
  | none => init

/-- replace the columns of the row(s) with key `k`, or append a new row -/
def upsertRow (out : List Row) (k : Key) (cols : List Sq) : List Row :=
  if out.any (fun o => o.key == k) then out.map (fun o => if o.key == k then { o with cols := cols } else o)
  else out ++ [{ key := k, cols := cols }]

theorem colsOf_upsert (init : List Sq) (out : List Row) (k k' : Key) (cols : List Sq) :
    colsOf init (upsertRow out k cols) k' = if k = k' then cols else colsOf init out k' := by
  unfold colsOf upsertRow
  by_cases hany : out.any (fun o => o.key == k) = true
  · have hcomp : ((fun o : Row => o.key == k') ∘ fun o : Row => if (o.key == k) = true then { o with cols := cols } else o)
        = fun o : Row => o.key == k' := by
      funext o
      simp only [Function.comp]
      split <;> rfl
    rw [if_pos hany, List.find?_map, hcomp]
    cases hf : out.find? (fun o => o.key == k') with
    | none =>
      obtain ⟨o, ho, hok⟩ := List.any_eq_true.mp hany
      have hne : k ≠ k' := fun hk => List.find?_eq_none.mp hf o ho (hk ▸ hok)
      rw [if_neg hne]
      rfl
    | some o' =>
      have hk' : o'.key = k' := by simpa using List.find?_some hf
      subst hk'
      simp only [Option.map_some, beq_iff_eq, @eq_comm _ k]
      split <;> rfl
  · have hnone : out.find? (fun o => o.key == k) = none :=
      List.find?_eq_none.mpr (fun o ho hok => hany (List.any_eq_true.mpr ⟨o, ho, hok⟩))
    rw [if_neg hany, List.find?_append]
    by_cases hk : k = k'
    · subst hk
      rw [if_pos rfl, hnone]
      simp
    · rw [if_neg hk, List.find?_singleton, if_neg (by simpa using hk), Option.or_none]

theorem colsOf_mem (init : List Sq) : ∀ (out : List Row), (out.map (·.key)).Nodup → ∀ o ∈ out,
    colsOf init out o.key = o.cols := by
  intro out
  induction out with
  | nil => intro _ o ho; simp at ho
  | cons a out ih =>
    intro hnd o ho
    simp only [List.map_cons, List.nodup_cons, List.mem_map, not_exists, not_and] at hnd
    unfold colsOf
    rw [List.find?_cons]
    rcases List.mem_cons.mp ho with rfl | h
    · simp
    · have hne : (a.key == o.key) = false := by
        rw [beq_eq_false_iff_ne]
        exact fun heq => hnd.1 o h heq.symm
      rw [hne]
      exact ih hnd.2 o h

theorem keys_upsert (out : List Row) (k : Key) (cols : List Sq) :
    (upsertRow out k cols).map (·.key) = if k ∈ out.map (·.key) then out.map (·.key) else out.map (·.key) ++ [k] := by
  unfold upsertRow
  have hiff : out.any (fun o => o.key == k) = true ↔ k ∈ out.map (·.key) := by
    simp only [List.any_eq_true, List.mem_map, beq_iff_eq]
  by_cases hany : out.any (fun o => o.key == k) = true
  · rw [if_pos hany, if_pos (hiff.mp hany), List.map_map]
    apply List.map_congr_left
    intro o _
    simp only [Function.comp]
    split <;> rfl
  · rw [if_neg hany, if_neg (fun h => hany (hiff.mpr h))]
    simp

theorem colsOf_foldl (init : List Sq) (slice : Key → Key) (upd : List Sq → Row → List Sq) (k' : Key) :
    ∀ (rows : List Row) (out : List Row),
      colsOf init (rows.foldl (fun out r => upsertRow out (slice r.key) (upd (colsOf init out (slice r.key)) r)) out) k' =
        (rows.filter (fun r => slice r.key == k')).foldl upd (colsOf init out k') := by
  intro rows out
  rw [List.foldl_filter]
  refine (List.foldl_hom (fun out => colsOf init out k') (fun out r => ?_)).symm
  rw [colsOf_upsert]
  by_cases hk : slice r.key = k'
  · subst hk
    simp
  · simp [hk]

theorem keys_foldl (slice : Key → Key) (f : List Row → Row → List Sq) :
    ∀ (rows : List Row) (out : List Row), (out.map (·.key)).Nodup →
      ((rows.foldl (fun out r => upsertRow out (slice r.key) (f out r)) out).map (·.key)).Nodup ∧
      ∀ k, k ∈ (rows.foldl (fun out r => upsertRow out (slice r.key) (f out r)) out).map (·.key) ↔
        (k ∈ out.map (·.key) ∨ ∃ r ∈ rows, slice r.key = k) := by
  intro rows
  induction rows with
  | nil => intro out hnd; exact ⟨hnd, fun k => by simp⟩
  | cons r rows ih =>
    intro out hnd
    simp only [List.foldl_cons]
    have hk := keys_upsert out (slice r.key) (f out r)
    have hnd' : ((upsertRow out (slice r.key) (f out r)).map (·.key)).Nodup := by
      rw [hk]
      split
      · exact hnd
      · rename_i hnot
        rw [List.nodup_append]
        exact ⟨hnd, by simp, by intro a ha b hb; simp at hb; subst hb; intro heq; subst heq; exact hnot ha⟩
    obtain ⟨n1, n2⟩ := ih _ hnd'
    refine ⟨n1, fun k => ?_⟩
    have hr : (∃ r' ∈ r :: rows, slice r'.key = k) ↔ (slice r.key = k ∨ ∃ r' ∈ rows, slice r'.key = k) := by
      simp only [List.mem_cons, exists_eq_or_imp]
    rw [n2 k, hk, hr]
    split
    · rename_i hin
      exact ⟨fun h => h.imp_right Or.inr,
        fun h => h.elim Or.inl (fun h' => h'.elim (fun h'' => Or.inl (h'' ▸ hin)) Or.inr)⟩
    · simp only [List.mem_append, List.mem_singleton, or_assoc, @eq_comm _ k]

/-- the group operator's resolution / until / asOf, as `groupRows` computes them -/
def gResOf (cfg : TableCfg) (pl : Plan) : Int :=
  if pl.resolutionTruncated || pl.resolutionChanged then pl.resolution else cfg.res
def gUntilOf (cfg : TableCfg) (now : Int) (pl : Plan) : Int :=
  if pl.qUntil = 0 then tableUntil cfg now else pl.qUntil
def gAsOfOf (cfg : TableCfg) (now : Int) (pl : Plan) : Int :=
  let gAsOf0 := if pl.qAsOf = 0 then tableAsOf cfg now else pl.qAsOf
  if gUntilOf cfg now pl - gAsOf0 < gResOf cfg pl then gUntilOf cfg now pl - gResOf cfg pl else gAsOf0

/-- the key of the output row a scan row goes to -/
def gSlice (q : Query) (k : Key) : Key :=
  if q.groupBy.isEmpty then k else k.filter (fun kv => q.groupBy.contains kv.1)

/-- the metadata handed to the sub-mergers for a scan row -/
def rowPt (metas : List KeyMeta) (r : Row) : Pt :=
  { vals := [], conds := ((metas.find? (fun m => m.key == r.key)).getD { key := r.key }).conds }

/-- one output column, one scan row: every input column that has a sub-merger is sub-merged in -/
def colStep (f : Field) (smsO : List (Option SM)) (inFields : List Field) (gRes otherRes gAsOf gUntil stride : Int)
    (pt : Pt) (c : Sq) (rcols : List Sq) : Sq :=
  ((smsO.zip inFields).zip rcols).foldl (fun (acc : Sq) a =>
    match a.1.1 with
    | none => acc
    | some sm => Sq.subMerge f.ex a.1.2.ex sm gRes otherRes acc a.2 pt gAsOf gUntil stride) c

def groupSms (q : Query) (inFields : List Field) : List (List (Option SM)) :=
  q.outFields.map (fun f => dedupInputs (inFields.map (·.ex)) (f.ex.subMergers (inFields.map (·.ex))))

def groupUpd (cfg : TableCfg) (now : Int) (q : Query) (pl : Plan) (inFields : List Field) (metas : List KeyMeta)
    (cur : List Sq) (r : Row) : List Sq :=
  ((q.outFields.zip (groupSms q inFields)).zip cur).map (fun a =>
    colStep a.1.1 a.1.2 inFields (gResOf cfg pl) cfg.res (gAsOfOf cfg now pl) (gUntilOf cfg now pl) pl.strideSlice
      (rowPt metas r) a.2 r.cols)

theorem groupRows_eq (cfg : TableCfg) (now : Int) (q : Query) (pl : Plan) (inFields : List Field)
    (metas : List KeyMeta) (rows : List Row) :
    (groupRows cfg now q pl inFields metas rows).1 =
      rows.foldl (fun out r => upsertRow out (gSlice q r.key)
        (groupUpd cfg now q pl inFields metas (colsOf (q.outFields.map (fun _ => (none : Sq))) out (gSlice q r.key)) r)) [] :=
  rfl

theorem groupRows_res (cfg : TableCfg) (now : Int) (q : Query) (pl : Plan) (inFields : List Field)
    (metas : List KeyMeta) (rows : List Row) :
    (groupRows cfg now q pl inFields metas rows).2 = gResOf cfg pl := rfl

/-- exactly the `j`-th input column has a sub-merger, the direct one for `e` -/
def OneHot (smsO : List (Option SM)) (j : Nat) (e : Ex) : Prop :=
  smsO[j]? = some (some (.direct e)) ∧ ∀ i, i ≠ j → ∀ sm, smsO[i]? = some sm → sm = none

theorem foldl_onehot {α : Type} (g : α → Option SM) (F : Sq → α → SM → Sq) :
    ∀ (l : List α) (j : Nat) (a : α) (sm : SM) (c : Sq), l[j]? = some a → g a = some sm →
      (∀ i a', i ≠ j → l[i]? = some a' → g a' = none) →
      l.foldl (fun acc a => match g a with | none => acc | some sm => F acc a sm) c = F c a sm := by
  intro l
  induction l with
  | nil => intro j a sm c hj; simp at hj
  | cons x xs ih =>
    intro j a sm c hj hg ho
    simp only [List.foldl_cons]
    cases j with
    | zero =>
      simp at hj
      subst hj
      rw [hg]
      apply foldl_fixed
      intro a' ha'
      obtain ⟨i, hi, hget⟩ := List.getElem_of_mem ha'
      rw [ho (i + 1) a' (by omega) (by simp [List.getElem?_eq_getElem hi, hget])]
    | succ j =>
      have hx : g x = none := ho 0 x (by omega) (by simp)
      rw [hx]
      exact ih j a sm c (by simpa using hj) hg
        (fun i a' hi hget => ho (i + 1) a' (by omega) (by simpa using hget))

theorem colStep_onehot (f : Field) (smsO : List (Option SM)) (inFields : List Field)
    (gRes otherRes gAsOf gUntil stride : Int) (pt : Pt) (c : Sq) (rcols : List Sq)
    (j : Nat) (e : Ex) (inF : Field) (col : Sq) (h1 : OneHot smsO j e) (h2 : inFields[j]? = some inF)
    (h3 : rcols[j]? = some col) :
    colStep f smsO inFields gRes otherRes gAsOf gUntil stride pt c rcols =
      Sq.subMerge f.ex inF.ex (.direct e) gRes otherRes c col pt gAsOf gUntil stride := by
  unfold colStep
  apply foldl_onehot (fun a : (Option SM × Field) × Sq => a.1.1)
    (fun acc a sm => Sq.subMerge f.ex a.1.2.ex sm gRes otherRes acc a.2 pt gAsOf gUntil stride)
    _ j ((some (.direct e), inF), col) (.direct e) c
  · rw [List.getElem?_zip_eq_some]
    exact ⟨by rw [List.getElem?_zip_eq_some]; exact ⟨h1.1, h2⟩, h3⟩
  · rfl
  · intro i a' hi hget
    rw [List.getElem?_zip_eq_some, List.getElem?_zip_eq_some] at hget
    exact h1.2 i hi _ hget.1.1

theorem length_groupUpd (cfg : TableCfg) (now : Int) (q : Query) (pl : Plan) (inFields : List Field)
    (metas : List KeyMeta) (cur : List Sq) (r : Row) (hc : cur.length = q.outFields.length) :
    (groupUpd cfg now q pl inFields metas cur r).length = q.outFields.length := by
  simp [groupUpd, groupSms, hc]

theorem getD_groupUpd (cfg : TableCfg) (now : Int) (q : Query) (pl : Plan) (inFields : List Field)
    (metas : List KeyMeta) (cur : List Sq) (r : Row) (hc : cur.length = q.outFields.length)
    (i : Nat) (f : Field) (hf : q.outFields[i]? = some f) :
    (groupUpd cfg now q pl inFields metas cur r).getD i none =
      colStep f (dedupInputs (inFields.map (·.ex)) (f.ex.subMergers (inFields.map (·.ex)))) inFields
        (gResOf cfg pl) cfg.res (gAsOfOf cfg now pl) (gUntilOf cfg now pl) pl.strideSlice
        (rowPt metas r) (cur.getD i none) r.cols := by
  have hi : i < cur.length := by
    rw [hc]
    exact (List.getElem?_eq_some_iff.mp hf).1
  apply getD_of_getElem?
  simp only [groupUpd, groupSms, List.getElem?_map, List.zip_eq_zipWith, List.getElem?_zipWith, hf,
    List.getElem?_eq_getElem hi, Option.map_some, List.getD_eq_getElem?_getD, Option.getD_some]

theorem getD_groupUpd_foldl (cfg : TableCfg) (now : Int) (q : Query) (pl : Plan) (inFields : List Field)
    (metas : List KeyMeta) (i : Nat) (f : Field) (hf : q.outFields[i]? = some f) :
    ∀ (rows : List Row) (cur : List Sq), cur.length = q.outFields.length →
      (rows.foldl (groupUpd cfg now q pl inFields metas) cur).getD i none =
        rows.foldl (fun c r =>
          colStep f (dedupInputs (inFields.map (·.ex)) (f.ex.subMergers (inFields.map (·.ex)))) inFields
            (gResOf cfg pl) cfg.res (gAsOfOf cfg now pl) (gUntilOf cfg now pl) pl.strideSlice
            (rowPt metas r) c r.cols) (cur.getD i none) := by
  intro rows
  induction rows with
  | nil => intro cur _; rfl
  | cons r rows ih =>
    intro cur hc
    simp only [List.foldl_cons]
    rw [ih _ (length_groupUpd cfg now q pl inFields metas cur r hc),
      getD_groupUpd cfg now q pl inFields metas cur r hc i f hf]

/-- the scan rows whose key slices to `k` (agree with `k` on the kept dims), in scan order -/
def groupMembers (q : Query) (rows : List Row) (k : Key) : List Row :=
  rows.filter (fun r => gSlice q r.key == k)

/-- a scan row as a source: its column `j` and its metadata -/
def srcOf (metas : List KeyMeta) (j : Nat) (r : Row) : Src := (r.cols.getD j none, rowPt metas r)

/-- the sources of the group `k` -/
def groupSrcs (q : Query) (metas : List KeyMeta) (rows : List Row) (k : Key) (j : Nat) : List Src :=
  (groupMembers q rows k).map (srcOf metas j)

/-- the cell column (output key `k`, selected field `i`) of `groupRows` -/
def groupCell (cfg : TableCfg) (now : Int) (q : Query) (pl : Plan) (inFields : List Field)
    (metas : List KeyMeta) (rows : List Row) (k : Key) (i : Nat) : Sq :=
  (colsOf (q.outFields.map (fun _ => (none : Sq))) (groupRows cfg now q pl inFields metas rows).1 k).getD i none

/-- the side conditions under which the cell column `i` of `groupRows` is characterised: the
    selected field `f` (`i`-th of the query) is the `j`-th scanned table field, sub-merged directly -/
structure GroupCell (cfg : TableCfg) (now : Int) (q : Query) (pl : Plan) (inFields : List Field)
    (rows : List Row) (kk : Nat) (i : Nat) (f : Field) (j : Nat) : Prop where
  /-- no STRIDE -/
  noStride : pl.strideSlice = 0
  /-- resolutions and window as `planLocal` produces them (`planLocal_window`) -/
  window : SMWindow (gResOf cfg pl) cfg.res kk (gAsOfOf cfg now pl) (gUntilOf cfg now pl)
  /-- `f` is the `i`-th selected field -/
  outField : q.outFields[i]? = some f
  /-- `Validate()` accepts it, no PERCENTILE, no SHIFT -/
  valid : f.ex.valid = true
  noPtile : f.ex.noPtile = true
  noShift : f.ex.shiftOf = 0
  /-- the `j`-th scanned field has the same expression -/
  inField : ∃ inF, inFields[j]? = some inF ∧ inF.ex = f.ex
  /-- column `j` is the only one with a sub-merger for `f`, the direct one (`oneHot_of_table_aggregate`) -/
  oneHot : OneHot (dedupInputs (inFields.map (·.ex)) (f.ex.subMergers (inFields.map (·.ex)))) j f.ex
  /-- every scan row has column `j`: a stored sequence on the table grid with well-formed states -/
  scan : ∀ r ∈ rows, j < r.cols.length ∧ SqOk cfg.res (r.cols.getD j none) ∧ SqWF f.ex (r.cols.getD j none)

theorem groupCell_colStep (cfg : TableCfg) (now : Int) (q : Query) (pl : Plan) (inFields : List Field)
    (metas : List KeyMeta) (rows : List Row) (k : Key) {i : Nat} {f : Field} (hf : q.outFields[i]? = some f) :
    groupCell cfg now q pl inFields metas rows k i =
      (groupMembers q rows k).foldl (fun c r =>
        colStep f (dedupInputs (inFields.map (·.ex)) (f.ex.subMergers (inFields.map (·.ex)))) inFields
          (gResOf cfg pl) cfg.res (gAsOfOf cfg now pl) (gUntilOf cfg now pl) pl.strideSlice
          (rowPt metas r) c r.cols) none := by
  unfold groupCell
  rw [groupRows_eq, colsOf_foldl _ (gSlice q) (groupUpd cfg now q pl inFields metas) k rows []]
  have h0 : colsOf (q.outFields.map (fun _ => (none : Sq))) [] k = q.outFields.map (fun _ => (none : Sq)) := rfl
  rw [h0, getD_groupUpd_foldl cfg now q pl inFields metas i f hf _ _ (by simp)]
  have hnone : (q.outFields.map (fun _ => (none : Sq))).getD i none = none := by
    rw [List.getD_eq_getElem?_getD, List.getElem?_map]
    cases q.outFields[i]? <;> rfl
  rw [hnone]
  rfl

theorem groupCell_eq {cfg : TableCfg} {now : Int} {q : Query} {pl : Plan} {inFields : List Field}
    {rows : List Row} {kk i j : Nat} {f : Field} (H : GroupCell cfg now q pl inFields rows kk i f j)
    (metas : List KeyMeta) (k : Key) :
    groupCell cfg now q pl inFields metas rows k i =
      subMergeAll f.ex (gResOf cfg pl) cfg.res (gAsOfOf cfg now pl) (gUntilOf cfg now pl)
        (groupSrcs q metas rows k j) none := by
  obtain ⟨inF, hin, hex⟩ := H.inField
  rw [groupCell_colStep cfg now q pl inFields metas rows k H.outField]
  unfold subMergeAll groupSrcs srcOf
  rw [List.foldl_map]
  apply foldl_congr_mem
  intro c r hr
  have hcol : r.cols[j]? = some (r.cols.getD j none) := by
    rw [List.getD_eq_getElem?_getD, List.getElem?_eq_getElem (H.scan r (List.mem_filter.mp hr).1).1]
    rfl
  rw [colStep_onehot f _ inFields _ _ _ _ _ _ c r.cols j f.ex inF _ H.oneHot hin hcol, hex, H.noStride]

theorem groupSrcs_ok {cfg : TableCfg} {now : Int} {q : Query} {pl : Plan} {inFields : List Field}
    {rows : List Row} {kk i j : Nat} {f : Field} (H : GroupCell cfg now q pl inFields rows kk i f j)
    (metas : List KeyMeta) (k : Key) :
    ∀ op ∈ groupSrcs q metas rows k j, SqOk cfg.res op.1 ∧ SqWF f.ex op.1 := by
  intro op hop
  unfold groupSrcs groupMembers srcOf at hop
  obtain ⟨r, hr, rfl⟩ := List.mem_map.mp hop
  exact (H.scan r (List.mem_filter.mp hr).1).2

theorem groupCell_inv {cfg : TableCfg} {now : Int} {q : Query} {pl : Plan} {inFields : List Field}
    {rows : List Row} {kk i j : Nat} {f : Field} (H : GroupCell cfg now q pl inFields rows kk i f j)
    (metas : List KeyMeta) (k : Key) :
    RecvGrid f.ex (gResOf cfg pl) (gUntilOf cfg now pl) (groupCell cfg now q pl inFields metas rows k i) ∧
      InWindow f.ex (gResOf cfg pl) (gAsOfOf cfg now pl) (gUntilOf cfg now pl)
        (groupCell cfg now q pl inFields metas rows k i) := by
  rw [groupCell_eq H metas k]
  exact (sem_subMergeAll_lem H.valid H.noPtile H.noShift H.window _ none (groupSrcs_ok H metas k) trivial
    (fun _ _ => rfl)).1

theorem groupCell_at {cfg : TableCfg} {now : Int} {q : Query} {pl : Plan} {inFields : List Field}
    {rows : List Row} {kk i j : Nat} {f : Field} (H : GroupCell cfg now q pl inFields rows kk i f j)
    (metas : List KeyMeta) (k : Key) (T : Int) (hT : (gUntilOf cfg now pl - T) % gResOf cfg pl = 0) :
    (groupCell cfg now q pl inFields metas rows k i).at f.ex (gResOf cfg pl) T =
      if gAsOfOf cfg now pl < T ∧ T ≤ gUntilOf cfg now pl
      then mergeAllOnto f.ex cfg.res (groupSrcs q metas rows k j)
        (bucketTimes cfg.res kk (gAsOfOf cfg now pl) (gUntilOf cfg now pl) T) f.ex.empty
      else f.ex.empty := by
  rw [groupCell_eq H metas k, (sem_subMergeAll_lem H.valid H.noPtile H.noShift H.window _ none
    (groupSrcs_ok H metas k) trivial (fun _ _ => rfl)).2 T hT, at_none]

theorem groupCell_at_points (x : Ext) {cfg : TableCfg} {now : Int} {q : Query} {pl : Plan}
    {inFields : List Field} {rows : List Row} {kk i j : Nat} {f : Field}
    (H : GroupCell cfg now q pl inFields rows kk i f j) (metas : List KeyMeta)
    (k : Key) (T : Int) (hT : (gUntilOf cfg now pl - T) % gResOf cfg pl = 0)
    (hW : gAsOfOf cfg now pl < T ∧ T ≤ gUntilOf cfg now pl) (pts : Row → Int → List Pt)
    (hstore : ∀ r ∈ groupMembers q rows k,
      ∀ t ∈ bucketTimes cfg.res kk (gAsOfOf cfg now pl) (gUntilOf cfg now pl) T,
        (r.cols.getD j none).at f.ex cfg.res t = f.ex.acc x (pts r t)) :
    (groupCell cfg now q pl inFields metas rows k i).at f.ex (gResOf cfg pl) T =
      f.ex.acc x (memberPoints pts (groupMembers q rows k)
        (bucketTimes cfg.res kk (gAsOfOf cfg now pl) (gUntilOf cfg now pl) T)) := by
  rw [groupCell_at H metas k T hT, if_pos hW]
  have := mergeAllOnto_acc x H.valid H.noPtile cfg.res (srcOf metas j) pts _ (groupMembers q rows k) [] hstore
  simpa [Ex.acc, groupSrcs] using this

theorem groupRows_keys (cfg : TableCfg) (now : Int) (q : Query) (pl : Plan) (inFields : List Field)
    (metas : List KeyMeta) (rows : List Row) :
    ((groupRows cfg now q pl inFields metas rows).1.map (·.key)).Nodup ∧
      ∀ k, k ∈ (groupRows cfg now q pl inFields metas rows).1.map (·.key) ↔ ∃ r ∈ rows, gSlice q r.key = k := by
  rw [groupRows_eq]
  obtain ⟨h1, h2⟩ := keys_foldl (gSlice q)
    (fun out r => groupUpd cfg now q pl inFields metas
      (colsOf (q.outFields.map (fun _ => (none : Sq))) out (gSlice q r.key)) r) rows [] (by simp)
  exact ⟨h1, fun k => by rw [h2 k]; simp⟩

theorem upsert_len {n : Nat} (out : List Row) (k : Key) (cols : List Sq) (h : ∀ o ∈ out, o.cols.length = n)
    (hc : cols.length = n) : ∀ o ∈ upsertRow out k cols, o.cols.length = n := by
  intro o ho
  unfold upsertRow at ho
  split at ho
  · obtain ⟨o', ho', rfl⟩ := List.mem_map.mp ho
    split
    · exact hc
    · exact h o' ho'
  · rw [List.mem_append] at ho
    rcases ho with ho | ho
    · exact h o ho
    · simp only [List.mem_singleton] at ho
      rw [ho]; exact hc

theorem colsOf_len {n : Nat} (init : List Sq) (out : List Row) (k : Key) (h : ∀ o ∈ out, o.cols.length = n)
    (hi : init.length = n) : (colsOf init out k).length = n := by
  unfold colsOf
  cases hf : out.find? (fun o => o.key == k) with
  | none => exact hi
  | some o => exact h o (List.mem_of_find?_eq_some hf)

theorem groupRows_width (cfg : TableCfg) (now : Int) (q : Query) (pl : Plan) (inFields : List Field)
    (metas : List KeyMeta) (rows : List Row) :
    ∀ g ∈ (groupRows cfg now q pl inFields metas rows).1, g.cols.length = q.outFields.length := by
  rw [groupRows_eq]
  exact List.foldlRecOn rows _ (motive := fun out => ∀ o ∈ out, o.cols.length = q.outFields.length)
    (fun _ h => absurd h List.not_mem_nil)
    (fun out h r _ => upsert_len out _ _ h
      (length_groupUpd cfg now q pl inFields metas _ r (colsOf_len _ out _ h (List.length_map _))))

theorem groupRows_col_is_cell (cfg : TableCfg) (now : Int) (q : Query) (pl : Plan) (inFields : List Field)
    (metas : List KeyMeta) (rows : List Row) (g : Row) (hg : g ∈ (groupRows cfg now q pl inFields metas rows).1)
    (i : Nat) (hi : i < g.cols.length) : g.cols[i] = groupCell cfg now q pl inFields metas rows g.key i := by
  unfold groupCell
  rw [colsOf_mem _ _ (groupRows_keys cfg now q pl inFields metas rows).1 g hg, List.getD_eq_getElem?_getD,
    List.getElem?_eq_getElem hi]
  rfl

theorem groupCell_absent (cfg : TableCfg) (now : Int) (q : Query) (pl : Plan) (inFields : List Field)
    (metas : List KeyMeta) (rows : List Row) (k : Key) (i : Nat)
    (h : ∀ g ∈ (groupRows cfg now q pl inFields metas rows).1, g.key ≠ k) :
    groupCell cfg now q pl inFields metas rows k i = none := by
  unfold groupCell colsOf
  have : (groupRows cfg now q pl inFields metas rows).1.find? (fun o => o.key == k) = none := by
    rw [List.find?_eq_none]
    intro g hg
    simpa using h g hg
  rw [this]
  simp only [List.getD_eq_getElem?_getD, List.getElem?_map]
  cases q.outFields[i]? <;> rfl

theorem ok_of_ite_error {ε α : Type} {c : Prop} [Decidable c] {e : ε} {y : Except ε α} {v : α}
    (h : (if c then .error e else y) = .ok v) : ¬ c ∧ y = .ok v := by
  split at h
  · cases h
  · exact ⟨‹_›, h⟩

theorem resolutionFor_ok (cfg : TableCfg) (q : Query) (w : Window) (r ss : Int) (ch tr : Bool)
    (h : resolutionFor cfg q w = .ok (r, ss, ch, tr)) :
    (if tr || ch then r else cfg.res) = r ∧ r % cfg.res = 0 ∧ cfg.res ≤ r := by
  unfold resolutionFor at h
  dsimp only at h
  -- the last two tests say what an accepted resolution satisfies
  obtain ⟨c1, h⟩ := ok_of_ite_error (ok_of_ite_error h).2
  obtain ⟨c2, h⟩ := ok_of_ite_error h
  injection h with h
  injection h with hr h
  injection h with _ h
  injection h with hch _
  rw [hr] at c1 c2 hch
  subst hch
  by_cases hc : r = cfg.res
  · rw [hc]
    exact ⟨by split <;> rfl, Int.emod_self, Int.le_refl _⟩
  · simp only [hc, ne_eq, not_false_eq_true, decide_true, true_and, Int.not_lt, Decidable.not_not] at c1 c2
    exact ⟨by simp [hc], c2, c1⟩

theorem planLocal_fields (cfg : TableCfg) (now : Int) (q : Query) (pl : Plan)
    (h : planLocal cfg now q = .ok pl) :
    ∃ r ss ch tr, resolutionFor cfg q (windowFor cfg now q) = .ok (r, ss, ch, tr) ∧
      pl.resolution = r ∧ pl.resolutionChanged = ch ∧ pl.resolutionTruncated = tr ∧
      pl.qAsOf = (windowFor cfg now q).qAsOf ∧ pl.qUntil = (windowFor cfg now q).qUntil ∧
      pl.strideSlice = ss := by
  unfold planLocal at h
  simp only at h
  obtain ⟨_, h⟩ := ok_of_ite_error h
  split at h
  · cases h
  · rename_i r ss ch tr heq
    injection h with h
    subst h
    exact ⟨r, ss, ch, tr, heq, rfl, rfl, rfl, rfl, rfl, rfl⟩

theorem planLocal_window (cfg : TableCfg) (now : Int) (q : Query) (pl : Plan)
    (h : planLocal cfg now q = .ok pl) (hres : 0 < cfg.res) (hpos : 0 < gAsOfOf cfg now pl) :
    SMWindow (gResOf cfg pl) cfg.res (gResOf cfg pl / cfg.res).toNat (gAsOfOf cfg now pl) (gUntilOf cfg now pl) := by
  obtain ⟨r, ss, ch, tr, heq, f1, f2, f3, f4, f5, _⟩ := planLocal_fields cfg now q pl h
  obtain ⟨e1, e2, e3⟩ := resolutionFor_ok cfg q _ r ss ch tr heq
  have hg : gResOf cfg pl = r := by unfold gResOf; rw [f1, f2, f3]; exact e1
  have hU : gUntilOf cfg now pl % cfg.res = 0 := by
    unfold gUntilOf
    split
    · exact roundUp_mod hres
    · rw [f5]; exact roundUp_mod hres
  have hq0 : 1 ≤ r / cfg.res := (Int.le_ediv_iff_mul_le hres).mpr (by omega)
  -- the window start: the requested (or the table's) asOf, moved up so that one period fits
  have hA : gAsOfOf cfg now pl < gUntilOf cfg now pl ∧ gAsOfOf cfg now pl % cfg.res = 0 := by
    simp only [gAsOfOf, hg]
    generalize gUntilOf cfg now pl = U at hU ⊢
    have hA0 : (if pl.qAsOf = 0 then tableAsOf cfg now else pl.qAsOf) % cfg.res = 0 := by
      split
      · exact roundUp_mod hres
      · rw [f4]; exact roundUp_mod hres
    generalize (if pl.qAsOf = 0 then tableAsOf cfg now else pl.qAsOf) = a0 at hA0 ⊢
    split
    · exact ⟨by omega, emod_sub_of hU e2⟩
    · exact ⟨by omega, hA0⟩
  rw [hg]
  refine ⟨hres, by omega, ?_, hpos, hA.1, hA.2, hU⟩
  rw [Int.toNat_of_nonneg (by omega)]
  exact (Int.ediv_mul_cancel_of_emod_eq_zero e2).symm

theorem tableAsOf_ge (cfg : TableCfg) (now : Int) (hres : 0 < cfg.res) :
    now - cfg.retention ≤ tableAsOf cfg now := by
  unfold tableAsOf tableUntil
  have h1 := roundUp_ge (t := now) hres
  have h2 := roundUp_ge (t := roundUp now cfg.res - cfg.retention) hres
  omega

/-- `windowFor` keeps a bound `b` of the query that is neither absent (0) nor the table's `s`;
    `groupRows` reads the same bound back from the plan's `qAsOf` / `qUntil` -/
theorem window_bound (b s : Int) :
    (if b = 0 then s else b) = if (decide (b ≠ 0) && decide (b ≠ s)) = true then b else s := by
  by_cases h0 : b = 0
  · simp [h0]
  · by_cases h1 : b = s
    · simp [h1]
    · simp [h0, h1]

theorem resolutionFor_le_window (cfg : TableCfg) (q : Query) (w : Window) (r ss : Int) (ch tr : Bool)
    (h : resolutionFor cfg q w = .ok (r, ss, ch, tr)) :
    r ≤ w.hi - w.asOf ∧ (q.stride ≤ 0 → ss = 0) := by
  unfold resolutionFor at h
  dsimp only at h
  have h := (ok_of_ite_error (ok_of_ite_error (ok_of_ite_error h).2).2).2
  injection h with h
  injection h with hr h
  injection h with hss _
  subst hr hss
  refine ⟨?_, fun hst => ?_⟩
  · split <;> omega
  · rw [if_neg (by omega)]

/-- the window start `groupRows` uses is the plan's, and `planLocal` checked it against the table's:
    the branch "window shorter than one period" of `core.Group` never fires after `planLocal` -/
theorem planLocal_gAsOf (cfg : TableCfg) (now : Int) (q : Query) (pl : Plan)
    (h : planLocal cfg now q = .ok pl) :
    gAsOfOf cfg now pl = pl.asOf ∧ gUntilOf cfg now pl = pl.hi ∧ tableAsOf cfg now ≤ pl.asOf := by
  unfold planLocal at h
  simp only at h
  obtain ⟨hlt, h⟩ := ok_of_ite_error h
  split at h
  · cases h
  · rename_i r ss ch tr heq
    injection h with h
    subst h
    obtain ⟨e1, _, _⟩ := resolutionFor_ok cfg q _ r ss ch tr heq
    have hle := (resolutionFor_le_window cfg q _ r ss ch tr heq).1
    have ha : (if (windowFor cfg now q).qAsOf = 0 then tableAsOf cfg now else (windowFor cfg now q).qAsOf) =
        (windowFor cfg now q).asOf := window_bound _ _
    have hu : (if (windowFor cfg now q).qUntil = 0 then tableUntil cfg now else (windowFor cfg now q).qUntil) =
        (windowFor cfg now q).hi := window_bound _ _
    simp only [gAsOfOf, gUntilOf, gResOf, e1, ha, hu]
    exact ⟨if_neg (by omega), trivial, by omega⟩

/-- every period inside the group window has not expired in the store -/
theorem planLocal_window_live (cfg : TableCfg) (now : Int) (q : Query) (pl : Plan)
    (h : planLocal cfg now q = .ok pl) (hres : 0 < cfg.res) : now - cfg.retention ≤ gAsOfOf cfg now pl := by
  obtain ⟨h1, _, h3⟩ := planLocal_gAsOf cfg now q pl h
  have := tableAsOf_ge cfg now hres
  omega

theorem planLocal_noStride (cfg : TableCfg) (now : Int) (q : Query) (pl : Plan)
    (h : planLocal cfg now q = .ok pl) (hs : q.stride ≤ 0) : pl.strideSlice = 0 := by
  obtain ⟨r, ss, ch, tr, heq, _, _, _, _, _, f6⟩ := planLocal_fields cfg now q pl h
  rw [f6]
  exact (resolutionFor_le_window cfg q _ r ss ch tr heq).2 hs

/-! printed identity (`Ex.sameStr`) and `bytetree.New`'s de-duplication of sub-mergers -/

theorem length_dedupInputs (ins : List Ex) (sms : List (Option SM)) : (dedupInputs ins sms).length = sms.length := by
  simp [dedupInputs]

theorem getElem?_dedupInputs (ins : List Ex) (sms : List (Option SM)) (i : Nat) :
    (dedupInputs ins sms)[i]? = (sms[i]?).map (fun sm =>
      match ins[i]? with
      | some e => if (ins.take i).any (fun e' => e'.sameStr e) then none else sm
      | none => sm) := by
  unfold dedupInputs
  rw [List.getElem?_map, List.getElem?_zipIdx]
  cases sms[i]? with
  | none => rfl
  | some sm =>
    simp only [Option.map_some, Nat.zero_add]
    congr 1

theorem sameStr_iff (a b : Ex) : a.sameStr b = true ↔ a.norm = b.norm := by
  unfold Ex.sameStr; exact beq_iff_eq

theorem sameStr_symm {a b : Ex} (h : a.sameStr b = true) : b.sameStr a = true :=
  (sameStr_iff b a).mpr ((sameStr_iff a b).mp h).symm

theorem sameStr_trans {a b c : Ex} (h1 : a.sameStr b = true) (h2 : b.sameStr c = true) : a.sameStr c = true :=
  (sameStr_iff a c).mpr (((sameStr_iff a b).mp h1).trans ((sameStr_iff b c).mp h2))

theorem sameStr_refl (a : Ex) : a.sameStr a = true :=
  (sameStr_iff a a).mpr rfl

/-- `GroupCell.oneHot` for an aggregate that is itself a table field, among table fields with pairwise
    different printed forms (`Expr.SubMergers` + `bytetree.New`'s de-duplication) -/
theorem oneHot_of_table_aggregate (ins : List Ex) (kd : AggKind) (wd : Ex) (j : Nat)
    (hj : ins[j]? = some (.agg kd wd))
    (hdist : ∀ (i i' : Nat) (a b : Ex), i ≠ i' → ins[i]? = some a → ins[i']? = some b → a.sameStr b = false) :
    OneHot (dedupInputs ins ((Ex.agg kd wd).subMergers ins)) j (.agg kd wd) := by
  have hsub : (Ex.agg kd wd).subMergers ins =
      ins.map (fun s => if (Ex.agg kd wd).sameStr s then some (.direct (.agg kd wd)) else none) := rfl
  constructor
  · -- no earlier input prints like the aggregate, so its sub-merger is not cleared
    have hany : (ins.take j).any (fun e' => e'.sameStr (.agg kd wd)) = false := by
      rw [List.any_eq_false]
      intro e' he'
      obtain ⟨i, hi, rfl⟩ := List.mem_take_iff_getElem.mp he'
      rw [hdist i j _ _ (by omega) (List.getElem?_eq_getElem (by omega)) hj]
      exact Bool.false_ne_true
    rw [getElem?_dedupInputs, hsub, List.getElem?_map, hj]
    simp only [Option.map_some, sameStr_refl, if_true, hany, Bool.false_eq_true, if_false]
  · intro i hi sm hget
    rw [getElem?_dedupInputs, hsub, List.getElem?_map] at hget
    cases hia : ins[i]? with
    | none => rw [hia] at hget; simp at hget
    | some a =>
      rw [hia] at hget
      have hns : (Ex.agg kd wd).sameStr a = false := hdist j i _ a (by omega) hj hia
      simp only [Option.map_some, hns, Bool.false_eq_true, if_false] at hget
      injection hget with hget
      rw [← hget]
      split <;> rfl

end Zeno
