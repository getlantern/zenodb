/-
Helper lemmas for C16: no function of the SQL dispatch model (M-SQLDISPATCH) has `panic` among its
possible outcomes, for every AST that satisfies the grammar invariants `wf`, with the C16 repairs
in place (`Cfg.fixed`).  Each model function has a lemma that derives its
no-panic fact from those of the calls it makes, stated about arbitrary sub-nodes; the mutual
theorem `np_ex` … `np_from` ties the knot.  Where the Go code looks several constructors deep (the
right operand of IN, the first argument of CROSSHIFT), what it finds there is part of what is
established for the sub-node (`NP.deep`), so that the recursion stays structural.

After that: `OnlyBool` (what `goExprFor` returns for a boolean kind of expression is a Go bool or an
error), namespace `Ins` (the insert pipeline: same table content whatever the WAL offset; with
`recover` the goroutine stays alive) and namespace `Cross` (the CROSSHIFT arithmetic: the loop
yields at most `cap + 1` fields; without its overflow guard as long as the sum stays below `maxDur`).
-/
import ZenoModel.Model.SqlDispatch

namespace Zeno.Sql

theorem np_bind {α β} {a : Res α} {f : α → Res β} (ha : a.pan = false) (hf : ∀ v, (f v).pan = false) :
    (a.bind f).pan = false := by
  unfold Res.bind
  split
  · simpa using ha
  · simp [ha, hf]

theorem np_ite {α} {p : Prop} [Decidable p] {a b : Res α} (ha : a.pan = false) (hb : b.pan = false) :
    (if p then a else b).pan = false := by
  split <;> assumption

@[simp] theorem np_ok {α} (v : α) : (Res.ok v).pan = false := rfl
@[simp] theorem np_error {α} : (Res.error : Res α).pan = false := rfl
@[simp] theorem np_either {α} (v : α) : (Res.either v).pan = false := rfl
@[simp] theorem np_void {α} (a : Res α) : a.void.pan = a.pan := rfl
@[simp] theorem np_ptileOpt_true : (ptileOptCtor (.expr true)).pan = false := rfl
@[simp] theorem np_exprCtor (v : VKind) : (exprCtor v).pan = false := by cases v <;> rfl
theorem np_guard (b : Bool) : (Res.guard b).pan = false := np_ite rfl rfl

theorem np_ctor {β} (v : VKind) {r : Res β} (hr : r.pan = false) : ((exprCtor v).bind fun _ => r).pan = false :=
  np_bind (np_exprCtor v) fun _ => hr

theorem np_asOrColName (as : String) (e : Ex) : (asOrColName as e).pan = false := by
  refine np_ite rfl ?_
  split <;> rfl

theorem np_addExpr (c : Ctx) (v : VKind) (as : String) : (addExpr c v as).pan = false := by
  cases v <;> rfl

theorem np_crosshiftTail (cfg : Cfg) (c : Ctx) (v : VKind) (as : String) (l1 l2 : Lit) :
    (crosshiftTail cfg c v as l1 l2).pan = false :=
  np_ite rfl (np_ite rfl (np_ite rfl (np_ite rfl (np_ite rfl (np_ctor v rfl)))))

theorem np_goParams : ∀ (prs : List (Res GoTy)), (∀ r ∈ prs, r.pan = false) → (goParams prs).pan = false
  | [], _ => rfl
  | p :: rest, h =>
      np_bind (h p List.mem_cons_self) fun _ => np_goParams rest fun r hr => h r (List.mem_cons_of_mem _ hr)

section
variable {cfg : Cfg}

/-- What the Go code looks at below an expression it has not descended into: `goExprFor` on the
    right operand of `IN` (a tuple's elements, a subquery's statement and fields), CROSSHIFT on the
    call that is its select expression (the value expression is built from the first argument). -/
def Deep (cfg : Cfg) : Ex → Prop
  | .tuple xs => (goExs cfg xs).pan = false
  | .subq s => (parseStmt cfg s).pan = false ∧ (fieldsOf cfg [] s).pan = false
  | .func _ (.cons (.ns value _ _) _) => ∀ c, (exprFor cfg c value true).pan = false
  | _ => True

/-- what the callers of an expression need of it -/
structure NP (cfg : Cfg) (e : Ex) : Prop where
  exprFor : ∀ c d, (exprFor cfg c e d).pan = false
  goExprFor : (goExprFor cfg e).pan = false
  deep : Deep cfg e

def Arg.All (P : Ex → Prop) : Arg → Prop
  | .star => True
  | .ns e _ _ => P e

def Args.All (P : Ex → Prop) : Args → Prop
  | .nil => True
  | .cons a rest => a.All P ∧ rest.All P

/-- the common tail of `comparisonExprFor`, `binaryExprFor`, `andExprFor`, `orExprFor`, `binaryFuncExprFor` -/
theorem np_exprPair {l r : Ex} (hl : NP cfg l) (hr : NP cfg r) {c : Ctx} {d : Bool} :
    ((exprFor cfg c l d).bind fun v1 => (exprFor cfg c r d).bind fun v2 =>
      (exprCtor v1).bind fun _ => (exprCtor v2).bind fun _ => Res.ok (VKind.expr false)).pan = false :=
  np_bind (hl.exprFor c d) fun v1 => np_bind (hr.exprFor c d) fun v2 => np_ctor v1 (np_ctor v2 rfl)

theorem np_exprFor_func (name : String) {args : Args} (h : args.All (NP cfg)) (c : Ctx) (d : Bool) :
    (exprFor cfg c (.func name args) d).pan = false := by
  unfold exprFor
  -- the goals left are, in this order: IF, BOUNDED, PERCENTILE, SHIFT, aggregate or math function
  refine np_ite (np_ite rfl ?_) (np_ite (np_ite rfl ?_) (np_ite ?_ (np_ite (np_ite rfl ?_) ?_)))
  · split
    · exact np_bind (h.2.1.exprFor c true) fun v => np_bind h.1.goExprFor fun _ => np_ctor v rfl
    · rfl
  · split
    · exact np_bind (h.1.exprFor c d) fun v => np_ite rfl (np_ite rfl (np_ctor v rfl))
    · rfl
  · split
    · split
      · rfl
      · refine np_ite rfl ?_
        split
        · rfl
        · exact np_bind (h.2.1.exprFor c false) fun pv => np_bind np_ptileOpt_true fun _ => np_ctor pv rfl
    · split
      · rfl
      · refine np_bind (np_ite rfl (h.1.exprFor c false)) fun v => ?_
        split
        · rfl
        · exact np_bind (h.2.1.exprFor c false) fun pv =>
            np_ite rfl (np_ite rfl (np_ite rfl (np_ctor v (np_ctor pv rfl))))
    · rfl
  · split
    · exact np_bind (h.1.exprFor c true) fun v => np_ite rfl (np_ctor v rfl)
    · rfl
  · split
    · split
      · exact np_bind (h.1.exprFor c _) fun v => np_ite (np_ctor v rfl) (np_ite (np_ctor v rfl) rfl)
      · rfl
    · refine np_ite rfl ?_
      split
      · exact np_exprPair h.1 h.2.1
      · rfl
    · rfl

theorem np_goExprFor_cmp (op : String) {l r : Ex} (hl : NP cfg l) (hr : NP cfg r) :
    (goExprFor cfg (.cmp op l r)).pan = false := by
  unfold goExprFor
  refine np_bind hl.goExprFor fun _ => np_ite ?_ (np_bind hr.goExprFor fun _ => np_ite rfl rfl)
  have hD := hr.deep
  split
  · exact np_bind hD fun _ => rfl
  · split
    · refine np_bind hD.1 fun _ => ?_
      split
      exact np_bind hD.2 fun _ => np_ite rfl rfl
    · rfl
  · rfl

theorem np_paramGoExpr {a : Arg} (ha : a.All (NP cfg)) : (paramGoExpr cfg a).pan = false := by
  cases a with
  | star => rfl
  | ns => exact ha.goExprFor

theorem np_fieldsGet_cons {a : Arg} {rest : Args} (ha : a.All (NP cfg))
    (hrest : ∀ c, (fieldsGet cfg c rest).pan = false) (c : Ctx) :
    (fieldsGet cfg c (.cons a rest)).pan = false := by
  cases a with
  | star => exact hrest _
  | ns e as lit =>
    unfold fieldsGet
    refine np_ite (hrest c) (np_bind ?_ hrest)
    have hgen := np_bind (np_asOrColName as e) fun name => np_bind (ha.exprFor c true) fun v => np_addExpr c v name
    have hD := ha.deep
    split
    · refine np_ite (np_ite rfl ?_) hgen
      split
      · exact np_bind (hD c) fun v => np_bind (np_asOrColName as _) fun name =>
          np_crosshiftTail cfg c v name _ _
      · rfl
    · exact hgen

theorem np_applyGroupBy_cons {a : Arg} {rest : Args} (ha : a.All (NP cfg))
    (hrest : ∀ ct, (applyGroupBy cfg ct rest).pan = false) (ct : Bool) :
    (applyGroupBy cfg ct (.cons a rest)).pan = false := by
  unfold applyGroupBy
  split
  · exact hrest ct
  · have hg : (goExprFor cfg _).pan = false := ha.goExprFor
    split
    · refine np_ite ?_ (np_ite (np_ite rfl (np_ite rfl (np_bind hg fun _ => hrest true)))
        (np_bind hg fun _ => np_ite rfl (hrest ct)))
      -- PERIOD, STRIDE: on an empty argument list the arity test evaluates, so `fn.Exprs[0]` is not reached
      rename_i fargs
      cases fargs with
      | nil => rfl
      | cons a _ => cases a with
        | star => exact np_ite rfl rfl
        | ns => exact np_ite rfl (np_ite (hrest ct) rfl)
    · exact np_bind hg fun _ => np_ite rfl (hrest ct)
    · exact np_bind hg fun _ => np_ite rfl (hrest ct)

theorem Args.All.deep {args : Args} (h : args.All (NP cfg)) (name : String) :
    Deep cfg (.func name args) := by
  cases args with
  | nil => trivial
  | cons a _ =>
    cases a with
    | star => trivial
    | ns => exact fun c => h.1.exprFor c true

/-- what the induction establishes for an argument list, in each of its three roles -/
structure NPArgs (cfg : Cfg) (args : Args) : Prop where
  argResults : ∀ r ∈ argResults cfg args, r.pan = false
  fieldsGet : ∀ c, (fieldsGet cfg c args).pan = false
  applyGroupBy : ∀ ct, (applyGroupBy cfg ct args).pan = false
  all : args.All (NP cfg)

end

theorem wf_and {a b : Bool} (h : (a && b) = true) : a = true ∧ b = true := by simpa using h

/-- `goFnExprFor` never panics when none of its parameters does: on a parameter list too short for
    the indices the arity test evaluates to the error branch, LUA's casts and CONCAT's `exprs[0]` are checked. -/
theorem np_goFnExprFor (name : String) (prs : List (Res GoTy)) (h : ∀ r ∈ prs, r.pan = false) :
    (goFnExprFor Cfg.fixed name prs).pan = false := by
  unfold goFnExprFor
  refine np_ite rfl (np_ite ?_ (np_ite ?_ (np_ite ?_ (np_ite ?_ rfl))))
  · match prs, h with
    | [], _ => rfl
    | p0 :: _, h => exact np_ite rfl (np_bind (h p0 (by simp)) fun _ => rfl)
  · match prs, h with
    | [], _ => rfl
    | [_], _ => rfl
    | p0 :: p1 :: _, h =>
        exact np_ite rfl (np_bind (h p0 (by simp)) fun _ => np_bind (h p1 (by simp)) fun _ => rfl)
  · match prs, h with
    | [], _ => rfl
    | [_], _ => rfl
    | [_, _], _ => rfl
    | p0 :: p1 :: p2 :: _, h =>
        refine np_ite rfl (np_bind (h p0 (by simp)) fun _ => np_bind (h p1 (by simp)) fun _ =>
          np_bind (h p2 (by simp)) fun _ => np_ite (np_ite rfl rfl) rfl)
  · rw [show Cfg.fixed.checkedConcat = true from rfl, Bool.true_and]
    by_cases hmin : prs.length < varGoExprMin name
    · rw [decide_eq_true hmin]
      rfl
    · rw [decide_eq_false hmin]
      refine np_ite rfl (np_bind (np_goParams prs h) fun _ => ?_)
      split
      · -- `name == "CONCAT" && n == 0` contradicts the minimum-parameters check
        rename_i hc
        simp only [Bool.and_eq_true, beq_iff_eq] at hc
        simp [hc.1, hc.2, varGoExprMin] at hmin
      · exact np_ite rfl rfl

/-- `fname[0]` needs a non-empty name; the retry without the leading `P` sees the same arguments -/
theorem np_goExprFor_func {name : String} (hname : name ≠ "") {args : Args}
    (hargs : ∀ r ∈ argResults Cfg.fixed args, r.pan = false) :
    (goExprFor Cfg.fixed (.func name args)).pan = false := by
  unfold goExprFor
  have h : ∀ n, (goFnExprFor Cfg.fixed n (argResults Cfg.fixed args)).pan = false :=
    fun n => np_goFnExprFor n _ hargs
  refine np_ite (h name) ?_
  split
  · rename_i he
    exact absurd (by simpa using he) hname
  · refine np_ite ?_ (h name)
    simp [h]

mutual
theorem np_ex : ∀ e : Ex, e.wf = true → NP Cfg.fixed e
  | .col _, _ => ⟨fun _ _ => np_ite rfl (np_ite rfl (by split <;> rfl)), rfl, trivial⟩
  | .num _ _, _ => ⟨fun _ _ => rfl, np_ite rfl rfl, trivial⟩
  | .func name args, h =>
      have hargs := np_args args (wf_and h).2
      ⟨np_exprFor_func name hargs.all, np_goExprFor_func (of_decide_eq_true (wf_and h).1) hargs.argResults,
       hargs.all.deep name⟩
  | .cmp op l r, h =>
      have hl := np_ex l (wf_and h).1
      have hr := np_ex r (wf_and h).2
      ⟨fun _ _ => np_ite rfl (np_exprPair hl hr), np_goExprFor_cmp op hl hr, trivial⟩
  | .bin _ l r, h =>
      ⟨fun _ _ => np_ite rfl (np_exprPair (np_ex l (wf_and h).1) (np_ex r (wf_and h).2)), rfl, trivial⟩
  | .tuple .nil, h => nomatch h
  | .tuple (.cons x xs), h => ⟨(np_ex x (wf_and (wf_and h).2).1).exprFor, rfl, np_exs _ (wf_and h).2⟩
  | .and l r, h | .or l r, h =>
      have hl := np_ex l (wf_and h).1
      have hr := np_ex r (wf_and h).2
      ⟨fun _ _ => np_exprPair hl hr, np_bind hl.goExprFor fun _ => np_bind hr.goExprFor fun _ => rfl, trivial⟩
  | .not e, h | .nullCheck e, h => ⟨fun _ _ => rfl, np_bind (np_ex e h).goExprFor fun _ => rfl, trivial⟩
  | .paren e, h => ⟨(np_ex e h).exprFor, (np_ex e h).goExprFor, trivial⟩
  | .subq s, h => ⟨fun _ _ => rfl, rfl, (np_stmt s h).1, (np_stmt s h).2 []⟩
  | .str, _ | .other, _ => ⟨fun _ _ => rfl, rfl, trivial⟩

theorem np_exs : ∀ xs : Exs, xs.wf = true → (goExs Cfg.fixed xs).pan = false
  | .nil, _ => rfl
  | .cons x rest, h => np_bind (np_ex x (wf_and h).1).goExprFor fun _ => np_exs rest (wf_and h).2

theorem np_arg : ∀ a : Arg, a.wf = true → a.All (NP Cfg.fixed)
  | .star, _ => trivial
  | .ns e _ _, h => np_ex e h

theorem np_args : ∀ args : Args, args.wf = true → NPArgs Cfg.fixed args
  | .nil, _ => ⟨nofun, fun _ => rfl, fun _ => rfl, trivial⟩
  | .cons a rest, h =>
      have ha := np_arg a (wf_and h).1
      have hr := np_args rest (wf_and h).2
      ⟨List.forall_mem_cons.mpr ⟨np_paramGoExpr ha, hr.argResults⟩, np_fieldsGet_cons ha hr.fieldsGet,
       np_applyGroupBy_cons ha hr.applyGroupBy, ha, hr.all⟩

theorem np_stmt (s : Stmt) (h : s.wf = true) :
    (parseStmt Cfg.fixed s).pan = false ∧ ∀ known, (fieldsOf Cfg.fixed known s).pan = false := by
  cases s with
  | select sel =>
    cases sel with
    | mk exprs fo fields frm hw wher tok gb lok =>
      obtain ⟨h, hgb⟩ := wf_and h
      obtain ⟨h, hwh⟩ := wf_and h
      obtain ⟨h, hfr⟩ := wf_and h
      exact ⟨np_bind (np_from frm hfr) fun _ => np_bind (np_guard _) fun _ =>
          np_bind (np_ite (np_ex wher hwh).goExprFor rfl) fun _ => np_bind (np_guard _) fun _ =>
          np_bind ((np_args gb hgb).applyGroupBy false) fun _ => np_guard _,
        fun _ => (np_args fields (wf_and h).2).fieldsGet _⟩
  | _ => exact ⟨rfl, fun _ => rfl⟩

theorem np_from : ∀ f : From, f.wf = true → (applyFrom Cfg.fixed f).pan = false
  | .none, h => nomatch h
  | .subq inner, h => (np_stmt inner h).1
  | .table, _ | .subqBad, _ | .other, _ => rfl
end

/-- no model function panics on a well-formed AST node of size at most `n`.  The bound plays no
    part in `noPanic_all`, which only collects `np_ex` … `np_from` in one record. -/
structure NoPanicUpTo (n : Nat) : Prop where
  E : ∀ c e d, sizeOf e ≤ n → e.wf = true → (exprFor Cfg.fixed c e d).pan = false
  G : ∀ e, sizeOf e ≤ n → e.wf = true → (goExprFor Cfg.fixed e).pan = false
  A : ∀ args, sizeOf args ≤ n → args.wf = true → ∀ r ∈ argResults Cfg.fixed args, r.pan = false
  P : ∀ a, sizeOf a ≤ n → a.wf = true → (paramGoExpr Cfg.fixed a).pan = false
  X : ∀ xs, sizeOf xs ≤ n → xs.wf = true → (goExs Cfg.fixed xs).pan = false
  F : ∀ c exprs, sizeOf exprs ≤ n → exprs.wf = true → (fieldsGet Cfg.fixed c exprs).pan = false
  B : ∀ ct gb, sizeOf gb ≤ n → gb.wf = true → (applyGroupBy Cfg.fixed ct gb).pan = false
  S : ∀ s, sizeOf s ≤ n → s.wf = true → (parseSel Cfg.fixed s).pan = false
  R : ∀ f, sizeOf f ≤ n → f.wf = true → (applyFrom Cfg.fixed f).pan = false
  T : ∀ s, sizeOf s ≤ n → s.wf = true → (parseStmt Cfg.fixed s).pan = false

theorem noPanic_all : ∀ n, NoPanicUpTo n := fun _ =>
  ⟨fun c e d _ h => (np_ex e h).exprFor c d, fun e _ h => (np_ex e h).goExprFor, fun args _ h => (np_args args h).argResults,
   fun a _ h => np_paramGoExpr (np_arg a h), fun xs _ h => np_exs xs h,
   fun c exprs _ h => (np_args exprs h).fieldsGet c, fun ct gb _ h => (np_args gb h).applyGroupBy ct,
   fun s _ h => (np_stmt (.select s) h).1, fun f _ h => np_from f h, fun s _ h => (np_stmt s h).1⟩

def OnlyBool (r : Res GoTy) : Prop := ∀ t, r.val = some t → t = GoTy.bool

theorem onlyBool_ok : OnlyBool (Res.ok GoTy.bool) := fun _ h => (Option.some.inj h).symm

theorem onlyBool_error : OnlyBool Res.error := nofun

theorem onlyBool_bind {α} {a : Res α} {f : α → Res GoTy} (h : ∀ v, OnlyBool (f v)) :
    OnlyBool (a.bind f) := by
  intro t ht
  unfold Res.bind at ht
  split at ht
  · cases ht
  · exact h _ t ht

theorem onlyBool_ite {p : Prop} [Decidable p] {a b : Res GoTy} (ha : OnlyBool a) (hb : OnlyBool b) :
    OnlyBool (if p then a else b) := by
  split <;> assumption

/-- `goExprFor` of an expression of a kind the grammar allows as a boolean expression returns,
    when it returns at all, an expression whose `Eval` yields a `bool`
    (goexpr.Boolean / Binary / Not / In); so `query.Where.Eval(key).(bool)` cannot fail. -/
theorem goExprFor_bool (cfg : Cfg) : ∀ (e : Ex), e.isBoolKind = true → OnlyBool (goExprFor cfg e)
  | .paren e, h => goExprFor_bool cfg e h
  | .and _ _, _ | .or _ _, _ => onlyBool_bind fun _ => onlyBool_bind fun _ => onlyBool_ok
  | .not _, _ | .nullCheck _, _ => onlyBool_bind fun _ => onlyBool_ok
  | .cmp _ _ _, _ => by
      unfold goExprFor
      refine onlyBool_bind fun _ => onlyBool_ite ?_ (onlyBool_bind fun _ => onlyBool_ite onlyBool_ok onlyBool_error)
      split
      · exact onlyBool_bind fun _ => onlyBool_ok
      · split
        · refine onlyBool_bind fun _ => ?_
          split
          exact onlyBool_bind fun _ => onlyBool_ite onlyBool_error onlyBool_ok
        · exact onlyBool_error
      · exact onlyBool_error
  | .other, _ => onlyBool_error
  | .col _, h | .num _ _, h | .str, h | .func _ _, h | .bin _ _ _, h | .tuple _, h | .subq _, h => nomatch h

namespace Ins

theorem insertRaw_fixed (wl : Bool) (p : Payload) : insertRaw (ICfg.fixed wl) p =
    if p.dimsValid && p.valsValid && !p.follower && p.streamKnown then .accepted else .rejected := by
  obtain ⟨sk, fo, dv, vv, fr, vals⟩ := p
  cases wl <;> cases sk <;> cases fo <;> cases dv <;> cases vv <;> rfl

/-- two pipeline states hold the same table content (they may differ in the WAL offset) -/
def SameTable (s t : St) : Prop := s.rows = t.rows ∧ s.dead = t.dead

theorem step_sameTable (cfg : ICfg) (p : Payload) {s t : St} (h : SameTable s t) :
    SameTable (step cfg s p) (step cfg t p) := by
  obtain ⟨hr, hd⟩ := h
  unfold step
  split
  · unfold apply
    rw [hd]
    split
    · exact ⟨hr, hd⟩
    · split <;> simp [SameTable, hr]
  · exact ⟨hr, hd⟩

theorem run_sameTable (cfg : ICfg) : ∀ (ps : List Payload) {s t : St}, SameTable s t →
    SameTable (run cfg s ps) (run cfg t ps)
  | [], _, _, h => h
  | p :: ps, _, _, h => by
      simp only [run, List.foldl_cons]
      exact run_sameTable cfg ps (step_sameTable cfg p h)

theorem run_append (cfg : ICfg) (s : St) (ps qs : List Payload) :
    run cfg s (ps ++ qs) = run cfg (run cfg s ps) qs := by
  simp [run, List.foldl_append]

theorem run_cons (cfg : ICfg) (s : St) (p : Payload) (ps : List Payload) :
    run cfg s (p :: ps) = run cfg (step cfg s p) ps := rfl

/-- with `recover` in `table.insert` the pipeline goroutine never dies -/
theorem step_alive (cfg : ICfg) (hr : cfg.recover = true) (s : St) (p : Payload) (hs : s.dead = false) :
    (step cfg s p).dead = false := by
  unfold step
  split
  · unfold Ins.apply tableInsert
    rw [hs, hr]
    cases p.fresh <;> cases doInsert p <;> rfl
  · exact hs

theorem run_alive (cfg : ICfg) (hr : cfg.recover = true) : ∀ (ps : List Payload) (s : St),
    s.dead = false → (run cfg s ps).dead = false
  | [], _, h => h
  | p :: ps, s, h => by
      rw [run_cons]
      exact run_alive cfg hr ps _ (step_alive cfg hr s p h)

end Ins
end Zeno.Sql

namespace Zeno.Sql.Cross

/-- the statement order without the loop's overflow guard (the code before C16-fix-16) -/
def unguarded : List Op :=
  [.parseCutoff, .zeroCutoff, .parseInterval, .zeroInterval, .absInterval, .limitIsCutoff, .absLimit, .cap, .loop]

theorem run_abs (cap c i lim : Int) (rest : List Op) :
    run cap (.absInterval :: .limitIsCutoff :: .absLimit :: rest) ⟨c, i, lim⟩ =
      run cap rest ⟨c, i.natAbs, c.natAbs⟩ := by
  simp only [run]
  congr 1
  split <;> split <;> simp_all <;> omega

theorem run_prefix (cap cutoff interval : Int) (rest : List Op) :
    run cap (.parseCutoff :: .zeroCutoff :: .parseInterval :: .zeroInterval :: .absInterval ::
        .limitIsCutoff :: .absLimit :: .cap :: rest) ⟨cutoff, interval, 0⟩ =
      if cutoff = 0 ∨ interval = 0 then .error
      else if cap < ((cutoff.natAbs / interval.natAbs : Nat) : Int) then .error
      else run cap rest ⟨cutoff, interval.natAbs, cutoff.natAbs⟩ := by
  by_cases hc : cutoff = 0
  · simp [run, hc]
  by_cases hi : interval = 0
  · simp [run, hc, hi]
  have hi' : ¬ (interval.natAbs : Int) = 0 := by omega
  rw [if_neg (fun h => h.elim hc hi), run, run, if_neg hc, run, run, if_neg hi, run_abs, run, if_neg hi',
    Int.tdiv_eq_ediv_of_nonneg (Int.natCast_nonneg _), Int.natCast_ediv]

theorem crosshift_eq (cap cutoff interval : Int) (g : Bool) :
    crosshift cap (if g then canonical else unguarded) cutoff interval =
      if cutoff = 0 ∨ interval = 0 then .error
      else if cap < ((cutoff.natAbs / interval.natAbs : Nat) : Int) then .error
      else loopOut g ⟨cutoff, interval.natAbs, cutoff.natAbs⟩ := by
  cases g <;> exact run_prefix ..

/-- the loop after both values were made positive and the cap was checked; without the guard the
    last addition `i += interval` must not overflow -/
theorem loopOut_bounded (g : Bool) (cap c : Int) {l v : Nat} (hl : 0 < l) (hv : 0 < v)
    (hcap : ¬ cap < ((l / v : Nat) : Int)) (hg : g = false → l + v ≤ maxDur.toNat) :
    ∃ n, loopOut g ⟨c, v, l⟩ = .fields n ∧ (n : Int) ≤ cap + 1 := by
  refine ⟨(l + v - 1) / v, ?_, ?_⟩
  · unfold loopOut
    simp only [show ¬ (l : Int) ≤ 0 by omega, show ¬ (v : Int) ≤ 0 by omega, if_false, Int.toNat_natCast]
    cases g
    · have hmul := Nat.div_mul_le_self (l + v - 1) v
      have : maxDur.toNat = 9223372036854775807 := by decide
      have hmd : maxDur = 9223372036854775807 := rfl
      have := hg rfl
      rw [if_neg]
      simp only [Bool.not_false, Bool.true_and, decide_eq_true_eq]
      omega
    · rfl
  · -- ⌈l / v⌉ = (l - 1) / v + 1 ≤ l / v + 1
    have h1 : (l - 1 + v) / v = (l - 1) / v + 1 := Nat.add_div_right _ hv
    have h2 : (l - 1) / v ≤ l / v := Nat.div_le_div_right (Nat.sub_le l 1)
    rw [show l + v - 1 = l - 1 + v by omega, h1]
    omega

theorem crosshift_bounded (cap cutoff interval : Int) (g : Bool)
    (hg : g = false → cutoff.natAbs + interval.natAbs ≤ maxDur.toNat) :
    crosshift cap (if g then canonical else unguarded) cutoff interval = .error ∨
    ∃ n, crosshift cap (if g then canonical else unguarded) cutoff interval = .fields n ∧ (n : Int) ≤ cap + 1 := by
  rw [crosshift_eq]
  split
  · exact .inl rfl
  · split
    · exact .inl rfl
    · exact .inr (loopOut_bounded g cap cutoff (by omega) (by omega) (by assumption) hg)

end Zeno.Sql.Cross
