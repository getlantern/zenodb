/-
Store ↔ column projection: `Store.flush` against `ColOp.flush`, and `Store.iterate` against
`Col.view`.  Both build their rows the same way (`joinRows`): one row per file row, merged with the
memstore row of the same key, then one per memstore row whose key is not in the file; the file
loop is a `filterMap` of a per-row function since the `stopped` flag is never set.  What the result
holds at one (key, column) is then read off the two rows of that key (`rowCol_joinRows`).
Throughout `tb` is the retention bound `st.now - cfg.retention` (Go's `truncateBefore`), and the
trailing `0` of `Sq.truncate … tb 0` is the zero time as `until`: nothing is cut at the new end.
-/
import ZenoModel.Lemmas.StoreProjIngest
namespace Zeno

/-- `g` writes, if anything, a row with the key of the row it read -/
def KeepsKey (g : Row → Option Row) : Prop := ∀ r w, g r = some w → w.key = r.key

theorem find_filterMap_none {g : Row → Option Row} (hg : KeepsKey g)
    (l : List Row) (key : Key) (h : ∀ r ∈ l, r.key ≠ key) :
    (l.filterMap g).find? (fun r => r.key == key) = none := by
  rw [List.find?_eq_none]
  intro w hw
  obtain ⟨r, hr, hgr⟩ := List.mem_filterMap.mp hw
  rw [beq_iff_eq, hg r w hgr]
  exact h r hr

theorem find_filterMap_key {g : Row → Option Row} (hg : KeepsKey g)
    {l : List Row} (hu : l.Pairwise (fun a b => a.key ≠ b.key)) (key : Key) :
    (l.filterMap g).find? (fun r => r.key == key) = (l.find? (fun r => r.key == key)).bind g := by
  induction l with
  | nil => rfl
  | cons a l ih =>
    rw [List.pairwise_cons] at hu
    rw [List.filterMap_cons, List.find?_cons]
    cases hk : a.key == key with
    | true =>
      -- `a` is the only row with this key: if it is dropped nothing is found
      have hnone := find_filterMap_none hg l key (fun r hr h => hu.1 r hr ((eq_of_beq hk).trans h.symm))
      cases hga : g a with
      | none => simp [hnone, hga]
      | some w => simp [hk, hga, hg a w hga]
    | false =>
      cases hga : g a with
      | none => simp [ih hu.2]
      | some w => simp [hk, ih hu.2, hg a w hga]

theorem find_filter_keep (q : Row → Bool) (l : List Row) (key : Key)
    (h : ∀ r ∈ l, r.key = key → q r = true) :
    (l.filter q).find? (fun r => r.key == key) = l.find? (fun r => r.key == key) := by
  induction l with
  | nil => rfl
  | cons a l ih =>
    have ih' := ih (fun r hr => h r (List.mem_cons_of_mem _ hr))
    cases hk : a.key == key with
    | true => simp [h a List.mem_cons_self (eq_of_beq hk), hk]
    | false => cases hq : q a <;> simp [hq, hk, ih']

theorem find_filter_drop (q : Row → Bool) (l : List Row) (key : Key)
    (h : ∀ r ∈ l, r.key = key → q r = false) :
    (l.filter q).find? (fun r => r.key == key) = none := by
  rw [List.find?_eq_none]
  intro r hr
  rw [List.mem_filter] at hr
  intro hk
  have := h r hr.1 (by simpa using hk)
  rw [this] at hr
  exact absurd hr.2 (by simp)

theorem pairwise_filterMap_key {g : Row → Option Row} (hg : KeepsKey g)
    {l : List Row} (hu : l.Pairwise (fun a b => a.key ≠ b.key)) :
    (l.filterMap g).Pairwise (fun a b => a.key ≠ b.key) := by
  rw [List.pairwise_filterMap]
  refine hu.imp ?_
  intro a b hab w hw w' hw'
  rw [hg a w hw, hg b w' hw']
  exact hab

/-- rows of the memstore whose key is not in the file -/
def restRows (fileRows mem : List Row) : List Row :=
  mem.filter (fun m => !(fileRows.any (fun r => r.key == m.key)))

theorem restRows_pairwise (fileRows : List Row) {mem : List Row}
    (hu : mem.Pairwise (fun a b => a.key ≠ b.key)) :
    (restRows fileRows mem).Pairwise (fun a b => a.key ≠ b.key) := hu.filter _

theorem restRows_key {fileRows mem : List Row} {m : Row} (hm : m ∈ restRows fileRows mem) :
    ∀ r ∈ fileRows, r.key ≠ m.key := by
  intro r hr hk
  have h2 := (List.mem_filter.mp hm).2
  simp only [Bool.not_eq_true', List.any_eq_false] at h2
  exact h2 r hr (by simp [hk])

/-- one row per file row, then one per memstore row whose key is not in the file: the rows a
    flush writes and the rows a scan hands out -/
def joinRows (g g' : Row → Option Row) (fileRows mem : List Row) : List Row :=
  fileRows.filterMap g ++ (restRows fileRows mem).filterMap g'

theorem joinRows_pairwise {g g' : Row → Option Row} (hg : KeepsKey g) (hg' : KeepsKey g')
    {fileRows mem : List Row} (hfu : fileRows.Pairwise (fun a b => a.key ≠ b.key))
    (hmu : mem.Pairwise (fun a b => a.key ≠ b.key)) :
    (joinRows g g' fileRows mem).Pairwise (fun a b => a.key ≠ b.key) := by
  unfold joinRows
  rw [List.pairwise_append]
  refine ⟨pairwise_filterMap_key hg hfu, pairwise_filterMap_key hg' (restRows_pairwise _ hmu), ?_⟩
  intro a ha b hb
  obtain ⟨r, hr, hgr⟩ := List.mem_filterMap.mp ha
  obtain ⟨m, hm, hgm⟩ := List.mem_filterMap.mp hb
  rw [hg r a hgr, hg' m b hgm]
  exact restRows_key hm r hr

theorem find_joinRows {g g' : Row → Option Row} (hg : KeepsKey g) (hg' : KeepsKey g')
    {fileRows mem : List Row} (hfu : fileRows.Pairwise (fun a b => a.key ≠ b.key))
    (hmu : mem.Pairwise (fun a b => a.key ≠ b.key)) (key : Key) :
    (joinRows g g' fileRows mem).find? (fun r => r.key == key) =
      match fileRows.find? (fun r => r.key == key) with
      | some r => g r
      | none => (mem.find? (fun r => r.key == key)).bind g' := by
  unfold joinRows
  rw [List.find?_append, find_filterMap_key hg hfu, find_filterMap_key hg' (restRows_pairwise _ hmu)]
  cases hfile : fileRows.find? (fun r => r.key == key) with
  | some r =>
    have hk : r.key = key := by simpa using List.find?_some hfile
    have hany : fileRows.any (fun r => r.key == key) = true :=
      List.any_eq_true.mpr ⟨r, List.mem_of_find?_eq_some hfile, by simpa using hk⟩
    rw [restRows, find_filter_drop _ _ _ (fun m _ hmk => by rw [hmk, hany]; rfl)]
    simp
  | none =>
    have hany : fileRows.any (fun r => r.key == key) = false := by
      rw [List.any_eq_false]
      exact List.find?_eq_none.mp hfile
    rw [restRows, find_filter_keep _ _ _ (fun m _ hmk => by rw [hmk, hany]; rfl)]
    rfl

/-- what the joined rows hold at (key, `j`), when every row written for a file row reads
    `F (file column i) (memstore column i)` there and every row written for a memstore row alone reads
    `F none (memstore column i)` -/
theorem rowCol_joinRows {g g' : Row → Option Row} (hg : KeepsKey g) (hg' : KeepsKey g')
    {fileRows mem : List Row} (hfu : fileRows.Pairwise (fun a b => a.key ≠ b.key))
    (hmu : mem.Pairwise (fun a b => a.key ≠ b.key)) (key : Key) (i j : Nat) (F : Sq → Sq → Sq)
    (hF : F none none = none)
    (hfile : ∀ r ∈ fileRows, r.key = key → optCol (g r) j = F (r.cols.getD i none) (rowCol mem key i))
    (hmem : ∀ m ∈ mem, optCol (g' m) j = F none (m.cols.getD i none)) :
    rowCol (joinRows g g' fileRows mem) key j = F (rowCol fileRows key i) (rowCol mem key i) := by
  rw [rowCol, find_joinRows hg hg' hfu hmu, rowCol]
  cases hf : fileRows.find? (fun r => r.key == key) with
  | some r => exact hfile r (List.mem_of_find?_eq_some hf) (by simpa using List.find?_some hf)
  | none =>
    rw [rowCol]
    cases hm : mem.find? (fun r => r.key == key) with
    | some m => exact hmem m (List.mem_of_find?_eq_some hm)
    | none => exact hF.symm

/-- a loop that appends `g r` (if any) for every `r` collects `filterMap g` -/
theorem foldl_filterMap {σ α β : Type} (mk : List β → σ) (step : σ → α → σ) (g : α → Option β)
    (h : ∀ acc r, step (mk acc) r = mk (acc ++ (g r).toList)) (rows : List α) :
    ∀ acc, rows.foldl step (mk acc) = mk (acc ++ rows.filterMap g) := by
  induction rows with
  | nil => intro acc; simp
  | cons r rows ih =>
    intro acc
    rw [List.foldl_cons, h, ih, List.filterMap_cons]
    cases g r <;> simp

theorem writeRow_some {cfg : TableCfg} {tb : Int} {r w : Row} (h : writeRow cfg tb r = some w) :
    w = { r with cols := r.cols.map (fun c => Sq.truncate c cfg.res tb 0) } :=
  (Option.some.inj (Option.ite_none_right_eq_some.1 h).2).symm

theorem writeRow_key (cfg : TableCfg) (tb : Int) : KeepsKey (writeRow cfg tb) :=
  fun _ _ h => writeRow_some h ▸ rfl

theorem writeRow_len {cfg : TableCfg} {tb : Int} {r w : Row} (h : writeRow cfg tb r = some w) :
    w.cols.length = r.cols.length :=
  writeRow_some h ▸ List.length_map _

theorem writeRow_col (cfg : TableCfg) (tb : Int) (r : Row) (i : Nat) :
    optCol (writeRow cfg tb r) i = Sq.truncate (r.cols.getD i none) cfg.res tb 0 := by
  unfold writeRow
  simp only [List.getD_eq_getElem?_getD]
  split
  · simp only [optCol, List.getD_eq_getElem?_getD, List.getElem?_map]
    cases r.cols[i]? <;> rfl
  · -- a row that `doWrite` drops had nothing left in any column
    rename_i h
    cases hc : r.cols[i]? with
    | none => rfl
    | some c =>
      cases ht : Sq.truncate c cfg.res tb 0 with
      | none => simp [optCol, ht]
      | some q =>
        exact absurd (List.any_eq_true.2 ⟨_, List.mem_map.2 ⟨c, List.mem_of_getElem? hc, ht⟩, rfl⟩) h

theorem writeRow_bind_col (cfg : TableCfg) (tb : Int) (o : Option Row) (i : Nat) :
    optCol (o.bind (writeRow cfg tb)) i = Sq.truncate (optCol o i) cfg.res tb 0 := by
  cases o with
  | none => rfl
  | some r => exact writeRow_col cfg tb r i

/-- the outbound columns of a file row: mapped, then merged with the memstore row (if any) -/
def outCols (cfg : TableCfg) (st : Store) (out : List Field) (mem : List Row) (tb : Int) (r : Row) :
    List Sq × Bool :=
  let m1 := mapFileCols out st.fileFields r.cols
  match mem.find? (fun m => m.key == r.key) with
  | some m =>
    let m2 := mergeMemCols out st.memFields cfg.res tb m1.1 m.cols
    (m2.1, m1.2 || m2.2)
  | none => (m1.1, m1.2)

def iterFileRow (cfg : TableCfg) (st : Store) (out : List Field) (mem : List Row) (tb : Int) (r : Row) :
    Option Row :=
  if (outCols cfg st out mem tb r).2 then some { key := r.key, cols := (outCols cfg st out mem tb r).1 } else none

def iterMemRow (cfg : TableCfg) (st : Store) (out : List Field) (tb : Int) (m : Row) : Row :=
  { key := m.key, cols := (mergeMemCols out st.memFields cfg.res tb (out.map (fun _ => none)) m.cols).1 }

/-- the rows of a scan of the fields `out`, loop-free (the `stopped` flag is never set) -/
theorem iterate_rows (cfg : TableCfg) (st : Store) (out : List Field) (includeMem : Bool) :
    (st.iterate cfg out includeMem).rows =
      joinRows (iterFileRow cfg st out (if includeMem then st.mem else []) (st.now - cfg.retention))
        (fun m => some (iterMemRow cfg st out (st.now - cfg.retention) m))
        (st.file.getD []) (if includeMem then st.mem else []) := by
  unfold Store.iterate
  simp only []
  rw [foldl_filterMap (fun l => ({ rows := l, stopped := false } : ScanOut)) _
    (iterFileRow cfg st out (if includeMem then st.mem else []) (st.now - cfg.retention)) ?_ _ []]
  · simp only [Bool.false_eq_true, if_false, List.nil_append, joinRows, restRows, List.filterMap_eq_map']
    rfl
  · intro acc r
    unfold iterFileRow outCols
    simp only [Bool.false_eq_true, if_false]
    cases (if includeMem = true then st.mem else []).find? (fun m => m.key == r.key) with
    | none =>
      simp only [Bool.or_false]
      split <;> simp
    | some m =>
      simp only []
      split <;> simp

theorem iterMemRow_key (cfg : TableCfg) (st : Store) (out : List Field) (tb : Int) :
    KeepsKey (fun m => some (iterMemRow cfg st out tb m)) :=
  fun _ _ h => by rw [← Option.some.inj h]; rfl

theorem outCols_len (cfg : TableCfg) (st : Store) (out : List Field) (mem : List Row) (tb : Int) (r : Row) :
    (outCols cfg st out mem tb r).1.length = out.length := by
  unfold outCols
  split
  · exact (mergeMemCols_length ..).trans (mapFileCols_length ..)
  · exact mapFileCols_length ..

theorem iterFileRow_some {cfg : TableCfg} {st : Store} {out : List Field} {mem : List Row} {tb : Int} {r w : Row}
    (h : iterFileRow cfg st out mem tb r = some w) : w = { key := r.key, cols := (outCols cfg st out mem tb r).1 } :=
  (Option.some.inj (Option.ite_none_right_eq_some.1 h).2).symm

theorem iterFileRow_key (cfg : TableCfg) (st : Store) (out : List Field) (mem : List Row) (tb : Int) :
    KeepsKey (iterFileRow cfg st out mem tb) :=
  fun _ _ h => iterFileRow_some h ▸ rfl

theorem iterFileRow_len {cfg : TableCfg} {st : Store} {out : List Field} {mem : List Row} {tb : Int} {r w : Row}
    (h : iterFileRow cfg st out mem tb r = some w) : w.cols.length = out.length :=
  iterFileRow_some h ▸ outCols_len cfg st out mem tb r

theorem iterMemRow_len (cfg : TableCfg) (st : Store) (out : List Field) (tb : Int) (m : Row) :
    (iterMemRow cfg st out tb m).cols.length = out.length :=
  (mergeMemCols_length ..).trans (List.length_map _)

theorem iterate_width (cfg : TableCfg) (st : Store) (out : List Field) (includeMem : Bool) :
    ∀ r ∈ (st.iterate cfg out includeMem).rows, r.cols.length = out.length := by
  intro w hw
  rw [iterate_rows] at hw
  rcases List.mem_append.mp hw with hw | hw
  · obtain ⟨r, _, hr⟩ := List.mem_filterMap.mp hw
    exact iterFileRow_len hr
  · obtain ⟨m, _, hm⟩ := List.mem_filterMap.mp hw
    rw [← Option.some.inj hm]
    exact iterMemRow_len cfg st out _ m

theorem iterFileRow_col (cfg : TableCfg) (st : Store) {out : List Field} {ti j : Nat}
    (hf : IdxTie (outIdxsFor out st.fileFields) ti j) (hm : IdxTie (outIdxsFor out (st.memFields.map some)) ti j)
    (hj : j < out.length) (mem : List Row) (tb : Int) (r : Row) (hr : ti < r.cols.length) :
    optCol (iterFileRow cfg st out mem tb r) j =
      Sq.merge (out.getD j default).ex cfg.res (r.cols.getD ti none) (rowCol mem r.key ti) tb := by
  unfold iterFileRow outCols rowCol optCol
  cases mem.find? (fun m => m.key == r.key) with
  | none =>
    simp only [mapFileCols_inc hf.tie hr, if_true]
    exact (mapFileCols_at hf hj r.cols).trans (merge_none_right ..).symm
  | some m =>
    simp only [mapFileCols_inc hf.tie hr, Bool.true_or, if_true]
    rw [mergeMemCols_at cfg.res tb hm _ m.cols (by rw [mapFileCols_length]; exact hj), mapFileCols_at hf hj]

theorem iterMemRow_col (cfg : TableCfg) (st : Store) {out : List Field} {ti j : Nat}
    (hm : IdxTie (outIdxsFor out (st.memFields.map some)) ti j) (hj : j < out.length) (tb : Int) (m : Row) :
    (iterMemRow cfg st out tb m).cols.getD j none =
      Sq.merge (out.getD j default).ex cfg.res none (m.cols.getD ti none) tb := by
  unfold iterMemRow
  simp only
  rw [mergeMemCols_at cfg.res tb hm _ m.cols (by simpa using hj), getD_map_const]

/-- the scan by key: column `j` of the row a scan of `out` hands out for `key`, when out position `j`
    is fed by the table's column `ti` alone, is the merge of what file and memstore hold for `key`
    in column `ti` -/
theorem scan_rowCol (cfg : TableCfg) (st : Store) (sinv : StoreInv cfg st) {out : List Field} {ti j : Nat}
    (htie : IdxTie (outIdxsFor out (cfg.fields.map some)) ti j) (hti : ti < cfg.fields.length)
    (hj : j < out.length) (includeMem : Bool) (key : Key) :
    rowCol (st.iterate cfg out includeMem).rows key j =
      Sq.merge (out.getD j default).ex cfg.res (rowCol (st.file.getD []) key ti)
        (rowCol (if includeMem then st.mem else []) key ti) (st.now - cfg.retention) := by
  have hmu : (if includeMem then st.mem else []).Pairwise (fun a b => a.key ≠ b.key) := by
    split
    · exact sinv.memOk.uniq
    · exact List.Pairwise.nil
  have htm : IdxTie (outIdxsFor out (st.memFields.map some)) ti j := sinv.memFields ▸ htie
  rw [iterate_rows]
  refine rowCol_joinRows (iterFileRow_key _ _ _ _ _) (iterMemRow_key _ _ _ _) sinv.fileOk.uniq hmu key ti j
    (fun fc mc => Sq.merge (out.getD j default).ex cfg.res fc mc (st.now - cfg.retention)) rfl ?_ ?_
  · intro r hr hk
    rw [← hk]
    exact iterFileRow_col cfg st (sinv.fileFields_of_mem hr ▸ htie) htm hj _ _ r (by rw [sinv.fileOk.len r hr]; exact hti)
  · intro m _
    exact iterMemRow_col cfg st htm hj _ m

/-- what the flush writes for one file row: the row as it is (raw pass-through), or what a scan
    merging the memstore would hand out, truncated -/
def flushFileRow (cfg : TableCfg) (st : Store) (tb : Int) (rawOkay : Bool) (r : Row) : Option Row :=
  if (st.mem.find? (fun m => m.key == r.key)).isNone && rawOkay then some r
  else (iterFileRow cfg st cfg.fields st.mem tb r).bind (writeRow cfg tb)

/-- what the flush writes for a memstore row whose key is not in the file -/
def flushMemRow (cfg : TableCfg) (st : Store) (tb : Int) (m : Row) : Option Row :=
  writeRow cfg tb (iterMemRow cfg st cfg.fields tb m)

/-- `fileSame` of `Store.flush`: the resolved file layout prints like the table's fields, position by
    position -/
def fileSameB (cfg : TableCfg) (st : Store) : Bool :=
  st.fileFields.length == cfg.fields.length &&
    (st.fileFields.zip cfg.fields).all (fun (f, o) => match f with | some f => f.same o | none => false)

/-- `rawOkay` of `Store.flush`: not a tenth flush, and `fileSame` -/
def rawOkayB (cfg : TableCfg) (st : Store) : Bool := !(st.flushCount % 10 == 9) && fileSameB cfg st

theorem flush_empty (cfg : TableCfg) (st : Store) (s : Bool) (h : st.mem.isEmpty = true) :
    st.flush cfg s = st := by simp [Store.flush, h]

/-- `Store.flush` with a non-empty memstore, loop-free -/
theorem flush_eq (cfg : TableCfg) (st : Store) (sorted : Bool) (hne : st.mem.isEmpty = false) :
    st.flush cfg sorted =
      { st with
        mem := [], memFields := cfg.fields,
        file := some (joinRows (flushFileRow cfg st (st.now - cfg.retention) (rawOkayB cfg st))
          (flushMemRow cfg st (st.now - cfg.retention)) (st.file.getD []) st.mem),
        fileFields := cfg.fields.map some,
        flushCount := st.flushCount + 1 } := by
  unfold Store.flush
  simp only [hne, Bool.false_eq_true, if_false]
  rw [foldl_filterMap (fun l => (l, false)) _
    (flushFileRow cfg st (st.now - cfg.retention) (rawOkayB cfg st)) ?_ _ []]
  · rfl
  · intro acc r
    -- the flag as `Store.flush` spells it is `rawOkayB` only up to the name of the auxiliary matcher:
    -- `split` would not see the two tests as one
    generalize hraw : (!(st.flushCount % 10 == 9) && _) = raw
    rw [show rawOkayB cfg st = raw from hraw]
    unfold flushFileRow iterFileRow outCols
    simp only [Bool.false_eq_true, if_false]
    split
    · rfl
    · cases st.mem.find? (fun m => m.key == r.key) with
      | none =>
        simp only [Bool.or_false]
        split
        · simp only [Option.bind_some]
          cases writeRow cfg _ _ <;> simp
        · simp
      | some m =>
        simp only []
        split
        · simp only [Option.bind_some]
          cases writeRow cfg _ _ <;> simp
        · simp

theorem flush_now (cfg : TableCfg) (st : Store) (s : Bool) : (st.flush cfg s).now = st.now := by
  by_cases hne : st.mem.isEmpty = true
  · rw [flush_empty cfg st s hne]
  · rw [flush_eq cfg st s (by simpa using hne)]

theorem flush_mem (cfg : TableCfg) (st : Store) (s : Bool) : (st.flush cfg s).mem = [] := by
  by_cases hne : st.mem.isEmpty = true
  · rw [flush_empty cfg st s hne]
    exact List.isEmpty_iff.mp hne
  · rw [flush_eq cfg st s (by simpa using hne)]

/-- after a flush, of an empty memstore or not, a disk-only scan and a memstore-inclusive scan are
    the same scan -/
theorem iterate_flush (cfg : TableCfg) (st : Store) (sorted : Bool) (outFields : List Field) :
    (st.flush cfg sorted).iterate cfg outFields false = (st.flush cfg sorted).iterate cfg outFields true := by
  unfold Store.iterate
  simp only [flush_mem, if_true, Bool.false_eq_true, if_false]

theorem flushFileRow_key (cfg : TableCfg) (st : Store) (tb : Int) (rawOkay : Bool) :
    KeepsKey (flushFileRow cfg st tb rawOkay) := by
  intro r w h
  unfold flushFileRow at h
  split at h
  · rw [← Option.some.inj h]
  · obtain ⟨v, hv, hw⟩ := Option.bind_eq_some_iff.mp h
    rw [writeRow_key cfg tb v w hw, iterFileRow_key cfg st _ _ _ r v hv]

theorem flushMemRow_key (cfg : TableCfg) (st : Store) (tb : Int) : KeepsKey (flushMemRow cfg st tb) :=
  fun m w h => writeRow_key cfg tb (iterMemRow cfg st cfg.fields tb m) w h

theorem flush_storeInv (cfg : TableCfg) (st : Store) (sorted : Bool)
    (sinv : StoreInv cfg st) : StoreInv cfg (st.flush cfg sorted) := by
  by_cases hne : st.mem.isEmpty = true
  · rw [flush_empty cfg st sorted hne]
    exact sinv
  · obtain ⟨_, _, hmo, hfo, _⟩ := sinv
    rw [flush_eq cfg st sorted (by simpa using hne)]
    refine ⟨rfl, Or.inr rfl, rowsOk_nil _,
      ⟨joinRows_pairwise (flushFileRow_key cfg st _ _) (flushMemRow_key cfg st _) hfo.uniq hmo.uniq, ?_⟩,
      fun _ h => by simp at h⟩
    intro w hw
    rcases List.mem_append.mp hw with hw | hw
    · obtain ⟨r, hr, hgr⟩ := List.mem_filterMap.mp hw
      unfold flushFileRow at hgr
      split at hgr
      · rw [← Option.some.inj hgr]
        exact hfo.len r hr
      · obtain ⟨v, hv, hw⟩ := Option.bind_eq_some_iff.mp hgr
        rw [writeRow_len hw]
        exact iterFileRow_len hv
    · obtain ⟨m, _, hgm⟩ := List.mem_filterMap.mp hw
      rw [writeRow_len hgm]
      exact iterMemRow_len cfg st _ _ m

theorem fileSame_true (cfg : TableCfg) (st : Store) (h : st.fileFields = cfg.fields.map some) :
    fileSameB cfg st = true := by
  unfold fileSameB
  rw [h]
  simp only [List.length_map, beq_self_eq_true, Bool.true_and]
  generalize cfg.fields = fs
  induction fs with
  | nil => rfl
  | cons f r ih =>
    simp only [List.map_cons, List.zip_cons_cons, List.all_cons, Field.same_refl, Bool.true_and]
    exact ih

/-- `ColOp.flush` in one record (when nothing is done the memstore series is `none` already) -/
theorem col_flush_eq (x : Ext) (ccfg : ColCfg) (c : Col) (raw : Bool) :
    Col.step x ccfg c (.flush raw) =
      { c with
        mem := none,
        file := if raw && c.mem.isNone then c.file
          else Sq.truncate (Sq.merge ccfg.e ccfg.res c.file c.mem (c.now - ccfg.retention)) ccfg.res
            (c.now - ccfg.retention) 0 } := by
  simp only [Col.step]
  split
  · rename_i h
    simp only [Bool.and_eq_true, Option.isNone_iff_eq_none] at h
    rw [← h.2]
  · rfl

/-- `Store.flush` (memstore not empty) moves the column of (key, i) as `ColOp.flush raw` does,
    `raw` = "not a tenth flush" -/
theorem flush_proj (x : Ext) (cfg : TableCfg) (hd : FieldsDistinct cfg.fields) (st : Store) (sorted : Bool)
    (key : Key) (i : Nat) (hi : i < cfg.fields.length) (c : Col)
    (sinv : StoreInv cfg st) (pinv : ProjInv st key i c) (hne : st.mem.isEmpty = false) :
    ProjInv (st.flush cfg sorted) key i
      (Col.step x (ccfgOf cfg i) c (.flush (!(st.flushCount % 10 == 9)))) := by
  obtain ⟨hn, hm, hf⟩ := pinv
  have htie := idxTie_id hd.idNodup hi
  have htm : IdxTie (outIdxsFor cfg.fields (st.memFields.map some)) i i := sinv.memFields ▸ htie
  rw [flush_eq cfg st sorted hne, col_flush_eq]
  refine ⟨hn, rfl, ?_⟩
  rw [hn, hm, hf]
  refine (rowCol_joinRows (flushFileRow_key cfg st _ _) (flushMemRow_key cfg st _) sinv.fileOk.uniq sinv.memOk.uniq key i i
    (fun fc mc => if (!(st.flushCount % 10 == 9)) && mc.isNone then fc
      else Sq.truncate (Sq.merge (cfg.fields.getD i default).ex cfg.res fc mc (st.now - cfg.retention)) cfg.res
        (st.now - cfg.retention) 0) ?_ ?_ ?_).symm
  · split <;> rfl
  · intro r hr hk
    have hraw : rawOkayB cfg st = !(st.flushCount % 10 == 9) := by
      unfold rawOkayB
      rw [fileSame_true cfg st (sinv.fileFields_of_mem hr), Bool.and_true]
    rw [rowCol_isNone sinv.memOk sinv.memSome key i hi, ← hk, Bool.and_comm, ← hraw]
    unfold flushFileRow
    split
    · rfl
    · rw [writeRow_bind_col, iterFileRow_col cfg st (sinv.fileFields_of_mem hr ▸ htie) htm hi st.mem _ r
        (by rw [sinv.fileOk.len r hr]; exact hi)]
  · intro m _
    unfold flushMemRow
    rw [writeRow_col, iterMemRow_col cfg st htm hi _ m]
    cases m.cols.getD i none <;> cases (!(st.flushCount % 10 == 9)) <;> rfl

/-- what `projectionMismatches` reads off a scan: column `i` of the row with key `key` -/
def scanCol (cfg : TableCfg) (st : Store) (includeMem : Bool) (key : Key) (i : Nat) : Sq :=
  match (st.iterate cfg cfg.fields includeMem).rows.find? (fun r => r.key == key) with
  | some r => r.cols.getD i none
  | none => none

/-- the scan of a reachable store at (key, i) is the column's view -/
theorem view_proj (cfg : TableCfg) (hd : FieldsDistinct cfg.fields) (st : Store) (includeMem : Bool)
    (key : Key) (i : Nat) (hi : i < cfg.fields.length) (c : Col)
    (sinv : StoreInv cfg st) (pinv : ProjInv st key i c) :
    scanCol cfg st includeMem key i = c.view (ccfgOf cfg i) includeMem := by
  obtain ⟨hn, hm, hf⟩ := pinv
  show rowCol (st.iterate cfg cfg.fields includeMem).rows key i = _
  rw [scan_rowCol cfg st sinv (idxTie_id hd.idNodup hi) hi hi, ← hf]
  unfold Col.view
  cases includeMem with
  | true => simp only [if_true, hm, hn, ccfgOf]
  | false => exact merge_none_right _ _ _ _

end Zeno
