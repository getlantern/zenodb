/-
Row level and store level facts of an alter (Model/Alter.lean): what one scanned / rewritten
row holds per field identity, what that means for the file the alter writes, the layouts a history
with `AStore.alter` can reach (`LayoutInv`), and `Store.iterateC` = `Store.iterate`.
-/
import ZenoModel.Model.Alter
import ZenoModel.Lemmas.StoreProjFlush
namespace Zeno

/-- the series a file row stores for the field that prints like `f` (`none` when the resolved
    file layout has no such field) -/
def fileColOf (ff : List (Option Field)) (f : Field) (cols : List Sq) : Sq :=
  match filePos ff f with
  | some i => cols.getD i none
  | none => none

/-- the series a memstore row holds for the field that prints like `f` -/
def memColOf (mf : List Field) (f : Field) (ms : Option (List Sq)) : Sq :=
  match ms, fieldPos mf f with
  | some m, some j => m.getD j none
  | _, _ => none

theorem filePos_some {ff : List (Option Field)} {f : Field} {i : Nat} (h : filePos ff f = some i) :
    ∃ g, ff[i]? = some (some g) ∧ g.same f = true := by
  obtain ⟨hi, hp, _⟩ := List.findIdx?_eq_some_iff_getElem.1 h
  cases hg : ff[i] with
  | none => rw [hg] at hp; cases hp
  | some g => exact ⟨g, by rw [List.getElem?_eq_getElem hi, hg], by rw [hg] at hp; exact hp⟩

theorem filePos_none {ff : List (Option Field)} {f : Field} (h : filePos ff f = none) :
    ∀ (i : Nat) (g : Field), ff[i]? = some (some g) → g.same f = false := by
  intro i g hg
  simpa using List.findIdx?_eq_none_iff.1 h (some g) (List.mem_of_getElem? hg)

theorem fieldPos_some {mf : List Field} {f : Field} {j : Nat} (h : fieldPos mf f = some j) :
    ∃ hj : j < mf.length, mf[j].same f = true :=
  let ⟨hj, hp, _⟩ := List.findIdx?_eq_some_iff_getElem.1 h
  ⟨hj, hp⟩

theorem fieldPos_none {mf : List Field} {f : Field} (h : fieldPos mf f = none) :
    ∀ g ∈ mf, g.same f = false := by
  simpa using List.findIdx?_eq_none_iff.1 h

/-- One scanned row, per field identity.  Whatever the three layouts are (permuted, with more
    or fewer fields, any widths): out-column `o` of a scanned file row is the merge — with
    `out[o]`'s expression — of the series the file row stores for the field printed like `out[o]`
    and the series the memstore row holds for it; a layout that lacks the field contributes
    nothing. -/
theorem scanFileRow_col (cfg : TableCfg) (tb : Int) {out : List Field} (hout : IdNodup out)
    {ff : List (Option Field)} (hff : IdNodupO ff) {mf : List Field} (hmf : IdNodup mf)
    (fileCols : List Sq) (ms : Option (List Sq)) (o : Nat) (ho : o < out.length) :
    (scanFileRow cfg tb out ff mf fileCols ms).1.getD o none =
      Sq.merge out[o].ex cfg.res (fileColOf ff out[o] fileCols) (memColOf mf out[o] ms) tb := by
  have hfile : (mapFileCols out ff fileCols).1.getD o none = fileColOf ff out[o] fileCols := by
    unfold fileColOf
    cases hp : filePos ff out[o] with
    | some i =>
      obtain ⟨g, hg, hs⟩ := filePos_some hp
      exact mapFileCols_at (idxTie_of_same hout hff hg ho hs) ho fileCols
    | none => exact mapFileCols_miss ff fileCols o ho (filePos_none hp)
  unfold scanFileRow
  cases ms with
  | none =>
    simp only [memColOf, merge_none_right]
    exact hfile
  | some m =>
    have hoc : o < (mapFileCols out ff fileCols).1.length := by rw [mapFileCols_length]; exact ho
    show (mergeMemCols out mf cfg.res tb (mapFileCols out ff fileCols).1 m).1.getD o none = _
    cases hq : fieldPos mf out[o] with
    | some j =>
      obtain ⟨hj, hs⟩ := fieldPos_some hq
      rw [mergeMemCols_at cfg.res tb (idxTie_of_same hout (idNodupO_map_some hmf) (i := j) (by simp [hj]) ho hs) _ m hoc, hfile]
      simp [memColOf, hq, ho]
    | none =>
      rw [mergeMemCols_miss mf cfg.res tb _ m o ho (fieldPos_none hq), hfile]
      simp only [memColOf, hq, merge_none_right]

/-- a memstore row without file row is a file row of the empty layout -/
theorem scanMemRow_col (cfg : TableCfg) (tb : Int) {out : List Field} (hout : IdNodup out)
    {mf : List Field} (hmf : IdNodup mf) (m : List Sq) (o : Nat) (ho : o < out.length) :
    (scanMemRow cfg tb out mf m).getD o none =
      Sq.merge out[o].ex cfg.res none (memColOf mf out[o] (some m)) tb :=
  scanFileRow_col cfg tb hout (ff := []) .nil hmf [] (some m) o ho

theorem scanFileRow_length (cfg : TableCfg) (tb : Int) (out : List Field) (ff : List (Option Field))
    (mf : List Field) (fileCols : List Sq) (ms : Option (List Sq)) :
    (scanFileRow cfg tb out ff mf fileCols ms).1.length = out.length := by
  unfold scanFileRow
  cases ms with
  | none => exact mapFileCols_length out ff fileCols
  | some m => simp only []; rw [mergeMemCols_length, mapFileCols_length]

/-- what `doWrite` stores at position `o` of a row it keeps; a dropped row stores nothing -/
def writtenCol (w : Option Row) (o : Nat) : Sq :=
  match w with
  | some r => r.cols.getD o none
  | none => none

theorem writtenCol_writeRow (cfg : TableCfg) (tb : Int) (r : Row) (o : Nat) :
    writtenCol (writeRow cfg tb r) o = Sq.truncate (r.cols.getD o none) cfg.res tb 0 :=
  writeRow_col cfg tb r o

theorem truncate_none (res tb hi : Int) : Sq.truncate none res tb hi = none := rfl

theorem zip_all_get {α β : Type} {l₁ : List α} {l₂ : List β} {p : α × β → Bool}
    (h : (l₁.zip l₂).all p = true) {o : Nat} (h₁ : o < l₁.length) (h₂ : o < l₂.length) :
    p (l₁[o], l₂[o]) = true :=
  List.all_eq_true.1 h _ (List.mem_iff_getElem.2 ⟨o, by rw [List.length_zip]; omega, List.getElem_zip⟩)

/-- a raw pass-through requires the file layout to print like the out layout position by position -/
theorem fileSameAs_get {ff : List (Option Field)} {out : List Field} (h : fileSameAs ff out = true)
    (o : Nat) (ho : o < out.length) : ∃ g, ff[o]? = some (some g) ∧ g.same out[o] = true := by
  simp only [fileSameAs, Bool.and_eq_true, beq_iff_eq] at h
  have hof : o < ff.length := by omega
  have := zip_all_get h.2 hof ho
  cases hg : ff[o] with
  | none => simp [hg] at this
  | some g => exact ⟨g, by rw [List.getElem?_eq_getElem hof, hg], by simpa [hg] using this⟩

theorem fieldsSame_get {fs gs : List Field} (h : fieldsSame fs gs = true) (o : Nat) (ho : o < fs.length) :
    ∃ ho' : o < gs.length, fs[o].same gs[o] = true := by
  simp only [fieldsSame, Bool.and_eq_true, beq_iff_eq] at h
  exact ⟨by omega, zip_all_get h.2 ho (by omega)⟩

theorem fieldsSame_refl (fs : List Field) : fieldsSame fs fs = true := by
  simp [fieldsSame, List.zip_eq_zipWith, List.zipWith_self, Field.same_refl]

/-- if neither the resolved file layout nor the memstore layout has a
    field printed like `cfg.fields[o]`, every row of the rewritten file stores the empty series
    at position `o`. -/
theorem flushBody_added_col_none (cfg : TableCfg) (st : Store)
    (o : Nat) (ho : o < cfg.fields.length)
    (hfile : ∀ (i : Nat) (g : Field), st.fileFields[i]? = some (some g) → g.same cfg.fields[o] = false)
    (hmem : ∀ g ∈ st.memFields, g.same cfg.fields[o] = false) :
    ∀ row ∈ ((st.flushBody cfg).file.getD []), row.cols.getD o none = none := by
  intro row hrow
  simp only [Store.flushBody, Option.getD_some, List.mem_append, List.mem_filterMap] at hrow
  have hmiss := fun columns msCols =>
    mergeMemCols_miss st.memFields cfg.res (st.now - cfg.retention) columns msCols o ho hmem
  have hscan : ∀ (fileCols : List Sq) (ms : Option (List Sq)),
      (scanFileRow cfg (st.now - cfg.retention) cfg.fields st.fileFields st.memFields fileCols ms).1.getD o none = none := by
    intro fileCols ms
    unfold scanFileRow
    cases ms with
    | none => exact mapFileCols_miss _ fileCols o ho hfile
    | some m => exact (hmiss _ m).trans (mapFileCols_miss _ fileCols o ho hfile)
  have hwr : ∀ (r w : Row), r.cols.getD o none = none →
      writeRow cfg (st.now - cfg.retention) r = some w → w.cols.getD o none = none := by
    intro r w hr hw
    have := writtenCol_writeRow cfg (st.now - cfg.retention) r o
    rw [hw, hr] at this
    exact this
  rcases hrow with ⟨r, _, hr⟩ | ⟨m, _, hm⟩
  · split at hr
    · -- raw pass-through: impossible, the file layout would have the field at position `o`
      rename_i hraw
      simp only [Bool.and_eq_true, Bool.not_eq_true'] at hraw
      obtain ⟨g, hg, hs⟩ := fileSameAs_get hraw.2.2 o ho
      rw [hfile o g hg] at hs
      cases hs
    · split at hr
      · exact hwr _ row (hscan _ _) hr
      · cases hr
  · refine hwr _ row ((hmiss _ _).trans ?_) hm
    simp [ho]

/-- under the hypotheses of `flushBody_added_col_none`, a scan of the table right after the rewrite
    returns the empty series for the field in every row -/
theorem scan_after_rewrite_added_none (cfg : TableCfg) (st : Store) (hout : IdNodup cfg.fields)
    (o : Nat) (ho : o < cfg.fields.length)
    (hfile : ∀ (i : Nat) (g : Field), st.fileFields[i]? = some (some g) → g.same cfg.fields[o] = false)
    (hmem : ∀ g ∈ st.memFields, g.same cfg.fields[o] = false) (includeMem : Bool) :
    ∀ row ∈ (st.flushBody cfg).iterateC cfg cfg.fields includeMem, row.cols.getD o none = none := by
  intro row hrow
  have hite : (if includeMem = true then (st.flushBody cfg).mem else []) = ([] : List Row) := by
    cases includeMem <;> rfl
  have hff : (st.flushBody cfg).fileFields = cfg.fields.map some := rfl
  have hmf : (st.flushBody cfg).memFields = cfg.fields := rfl
  unfold Store.iterateC at hrow
  simp only [] at hrow
  rw [hite, hff, hmf] at hrow
  simp only [List.filter_nil, List.map_nil, List.append_nil, List.mem_filterMap] at hrow
  obtain ⟨r, hr, hrow⟩ := hrow
  simp only [Option.ite_none_right_eq_some, Option.some.injEq] at hrow
  obtain ⟨_, rfl⟩ := hrow
  -- the file has the table's own layout: column `o` is handed out as stored
  exact (mapFileCols_at (idxTie_id hout ho) ho r.cols).trans (flushBody_added_col_none cfg st o ho hfile hmem r hr)

/-- invariant of histories with `AStore.alter` (with `AStore.alterPre` the file can keep a field the
    definition has dropped, D14a): the memstore layout is the current definition and the
    resolved file layout only names fields of the current definition -/
structure LayoutInv (a : AStore) : Prop where
  mem_eq : a.st.memFields = a.cfg.fields
  file_sub : ∀ (i : Nat) (g : Field), a.st.fileFields[i]? = some (some g) → ∃ h ∈ a.cfg.fields, g.same h = true

theorem ingest_layout (x : Ext) (cfg : TableCfg) (st : Store) (p : RawPoint) :
    (st.ingest x cfg p).1.memFields = st.memFields ∧ (st.ingest x cfg p).1.fileFields = st.fileFields := by
  rw [ingest_eq]
  exact ⟨rfl, rfl⟩

theorem map_some_sub (fs : List Field) (i : Nat) (g : Field) (h : (fs.map some)[i]? = some (some g)) :
    ∃ h ∈ fs, g.same h = true := by
  rw [List.getElem?_map, Option.map_eq_some_iff] at h
  obtain ⟨g', hg', hgg⟩ := h
  cases hgg
  exact ⟨g, List.mem_of_getElem? hg', Field.same_refl _⟩

theorem layoutInv_step (x : Ext) (a : AStore) (inv : LayoutInv a) (op : AOp) : LayoutInv (a.step x op) := by
  cases op with
  | ingest p =>
    obtain ⟨h1, h2⟩ := ingest_layout x a.cfg a.st { p with whereOk := a.whereOk p }
    exact ⟨h1.trans inv.mem_eq, fun i g h => inv.file_sub i g (h2 ▸ h)⟩
  | flush =>
    simp only [AStore.step, AStore.flush]
    split
    · exact inv
    · exact ⟨rfl, map_some_sub a.cfg.fields⟩
  | alter fs w =>
    simp only [AStore.step, AStore.alter]
    split
    · exact ⟨inv.mem_eq, inv.file_sub⟩
    · exact ⟨rfl, map_some_sub fs⟩
  | reopen fs w =>
    refine ⟨rfl, fun i g h => ?_⟩
    simp only [AStore.step, AStore.reopen] at h
    split at h
    · simp only [resolveHeader, List.getElem?_map, Option.map_eq_some_iff] at h
      obtain ⟨_, _, h⟩ := h
      exact ⟨g, List.mem_of_find?_eq_some h, Field.same_refl g⟩
    · simp at h

theorem layoutInv_run (x : Ext) (cfg : TableCfg) (w : Option Nat) (ops : List AOp) :
    LayoutInv (AStore.run x cfg w ops) :=
  List.foldlRecOn ops (AStore.step x) ⟨rfl, by intro i g h; simp [AStore.init, Store.init] at h⟩
    (fun a h op _ => layoutInv_step x a h op)

/-- `Store.iterateC` is the shared `Store.iterate` of Model/Store.lean -/
theorem iterateC_eq_iterate (cfg : TableCfg) (st : Store) (out : List Field) (includeMem : Bool) :
    (st.iterate cfg out includeMem).rows = st.iterateC cfg out includeMem := by
  rw [iterate_rows]
  unfold Store.iterateC joinRows restRows iterFileRow outCols scanFileRow
  simp only [List.filterMap_eq_map']
  congr 2
  funext r
  cases (if includeMem = true then st.mem else []).find? (fun m => m.key == r.key) <;> rfl

end Zeno
