/-
`Sequence.UpdateValue` as the memstore uses it (truncateBefore = zero time): on a stored
sequence it either prepends the periods up to the point's period and updates the first, or
grows the sequence down to the point's period and updates that one (`updateValue0_some`).
Semantics (`sem_updateValue0`) and invariants (`updateValue0_inv`) are read off that form.
-/
import ZenoModel.Lemmas.Seq

namespace Zeno

theorem updateValue0_none (x : Ext) (e : Ex) {res : Int} (h : 0 < res) (ts : Int) (hts : 0 < ts) (p : Pt) :
    Sq.updateValue x e res none ts p 0 = some ⟨roundUp ts res, [e.upd x e.empty p]⟩ := by
  have := roundUp_ge (t := ts) h
  simp only [Sq.updateValue, roundUntilUp_zero]
  rw [if_neg (by omega)]

/-- the two shapes of the result on a stored sequence; the "fresh sequence" and the truncating
    branches of the code are dead because the sequence does not reach back before time 0 -/
theorem updateValue0_some (x : Ext) (e : Ex) {res : Int} (h : 0 < res) (q : Seq) (hq : SeqOk res q)
    (ts : Int) (hts : 0 < ts) (p : Pt) :
    (∃ g : Nat, 0 < g ∧ roundUp ts res = q.hi + g * res ∧
      Sq.updateValue x e res (some q) ts p 0 =
        some ⟨roundUp ts res, (List.replicate g e.empty ++ q.cells).modify 0 (fun c => e.upd x c p)⟩) ∨
    (∃ k : Nat, q.hi - roundUp ts res = k * res ∧
      Sq.updateValue x e res (some q) ts p 0 =
        some ⟨q.hi, (if k + 1 > q.cells.length then fit e (k + 1) q.cells else q.cells).modify k
          (fun c => e.upd x c p)⟩) := by
  obtain ⟨hal, hbd, hqp⟩ := hq
  have hr1 := roundUp_ge (t := ts) h
  have hrm := roundUp_mod (t := ts) h
  generalize hR : roundUp ts res = ts' at hr1 hrm ⊢
  obtain ⟨n, hn⟩ := grid_index (a := ts') (b := 0) h (by simpa using hrm) (by omega)
  have hmax : (ts' - 0).tdiv res = n := by rw [hn, mul_tdiv_self h]
  by_cases hgt : ts' > q.hi
  · obtain ⟨g, hg⟩ := grid_index h (emod_sub_of hrm hal) (Int.le_of_lt hgt)
    have hg0 := natCast_mul_lt h (a := 0) (b := g)
    -- the `g` new periods fit: the old ones end after time 0
    have hfit : q.cells.length + g ≤ n := by
      apply (natCast_mul_le h).mp
      rw [natCast_add_mul]
      omega
    refine Or.inl ⟨g, by omega, by omega, ?_⟩
    simp only [Sq.updateValue, roundUntilUp_zero, modifyAt, hR]
    rw [if_neg (by omega), hmax, hg, mul_tdiv_self h, if_neg (by omega), if_pos hgt, if_neg (by omega)]
    simp only [List.take_length, Int.toNat_natCast]
    rw [show ((q.cells.length : Int) + g).toNat = (List.replicate g e.empty ++ q.cells).length by
      rw [List.length_append, List.length_replicate]; omega, fit_self]
  · obtain ⟨k, hk⟩ := grid_index h (emod_sub_of hal hrm) (Int.not_lt.mp hgt)
    have := tdiv_nonpos_of (a := ts' - q.hi) (by omega) h
    refine Or.inr ⟨k, hk, ?_⟩
    simp only [Sq.updateValue, roundUntilUp_zero, modifyAt, hR]
    rw [if_neg (by omega), hmax, if_neg (by omega), if_neg hgt, hk, mul_tdiv_self h, Int.toNat_natCast]

/-- Semantics of `UpdateValue` as the memstore uses it (truncateBefore = zero time): exactly the
    state of the point's period `roundUp ts res` is updated; every other period is untouched. -/
theorem sem_updateValue0 (x : Ext) (e : Ex) {res : Int} (h : 0 < res) (s : Sq) (hs : SqOk res s)
    (ts : Int) (hts : 0 < ts) (p : Pt) (T : Int) :
    (Sq.updateValue x e res s ts p 0).at e res T =
      if T = roundUp ts res then e.upd x (s.at e res T) p else s.at e res T := by
  cases s with
  | none =>
    rw [updateValue0_none x e h ts hts, at_none, show [e.upd x e.empty p] = [e.empty].modify 0 (e.upd x · p) from rfl,
      at_modify e h, at_single_empty]
    by_cases hT : T = roundUp ts res
    · rw [if_pos hT, if_pos ⟨by omega, Nat.one_pos⟩]
    · rw [if_neg hT, if_neg (fun hc => hT (by omega))]
  | some q =>
    obtain ⟨g, hg0, hg, heq⟩ | ⟨k, hk, heq⟩ := updateValue0_some x e h q hs ts hts p
    · have hl : 0 < (List.replicate g e.empty ++ q.cells).length := by
        rw [List.length_append, List.length_replicate]
        omega
      rw [heq, hg, at_modify e h, at_prepend_empties e h]
      by_cases hT : T = q.hi + g * res
      · rw [if_pos hT, if_pos ⟨by omega, hl⟩]
      · rw [if_neg hT, if_neg (fun hc => hT (by omega))]
    · have hl : k < (if k + 1 > q.cells.length then fit e (k + 1) q.cells else q.cells).length := by
        split
        · rw [fit_length]
          omega
        · omega
      rw [heq, at_modify e h, at_grow]
      by_cases hT : T = roundUp ts res
      · rw [if_pos hT, if_pos ⟨by omega, hl⟩]
      · rw [if_neg hT, if_neg (fun hc => hT (by omega))]

/-- `UpdateValue` (memstore form) keeps sequences on the grid, inside time, with well-formed
    states -/
theorem updateValue0_inv (x : Ext) {e : Ex} (hv : e.valid = true) (hp : e.noPtile = true)
    {res : Int} (h : 0 < res) (s : Sq) (hs : SqOk res s) (hw : SqWF e s)
    (ts : Int) (hts : 0 < ts) (p : Pt) :
    SqOk res (Sq.updateValue x e res s ts p 0) ∧ SqWF e (Sq.updateValue x e res s ts p 0) := by
  have hupd : ∀ c, WF e c → WF e (e.upd x c p) := fun c hc => upd_wf x hv hp hc p
  have hr1 := roundUp_ge (t := ts) h
  have hrm := roundUp_mod (t := ts) h
  -- the first period after time 0 ends at `res`
  have hge : res ≤ roundUp ts res := grid_gap hrm (by omega)
  cases s with
  | none =>
    rw [updateValue0_none x e h ts hts]
    refine ⟨⟨hrm, by simpa using hge, show 0 < roundUp ts res by omega⟩, fun c hc => ?_⟩
    rw [List.mem_singleton.mp hc]
    exact hupd _ (wf_empty e)
  | some q =>
    obtain ⟨g, hg0, hg, heq⟩ | ⟨k, hk, heq⟩ := updateValue0_some x e h q hs ts hts p
    · rw [heq]
      refine ⟨⟨hrm, ?_, show 0 < roundUp ts res by omega⟩, cellsWF_modify (cellsWF_append (cellsWF_replicate e g) hw) 0 _ hupd⟩
      have := hs.bound
      simp only [List.length_modify, List.length_append, List.length_replicate]
      rw [natCast_add_mul]
      omega
    · rw [heq]
      refine ⟨⟨hs.aligned, ?_, hs.pos⟩, cellsWF_modify ?_ k _ hupd⟩
      · simp only [List.length_modify]
        split
        · rw [fit_length, natCast_add_mul]
          omega
        · exact hs.bound
      · split
        · exact cellsWF_fit hw _
        · exact hw

end Zeno
