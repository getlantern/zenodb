/-
Helper lemmas for C20 (Model/Codec.lean): a round trip through the wire format returns
the object with `DeAggregated` cleared, and clearing that flag is invisible to the observers.
-/
import ZenoModel.Model.Codec

namespace Zeno

/-- A wire map that decodes field by field also decodes as a generic value. -/
theorem decVal_of_decMap {w : Wire} {m : WMap} (h : decMap w = some m) : decVal w = some .other := by
  cases w with
  | mnil => rfl
  | mcons k v rest =>
    rw [decMap] at h
    rw [decVal]
    split at h <;> simp_all
  | _ => simp [decMap] at h

/-- The body of an encoded object decodes field by field (needed for the embedded `ptile`). -/
theorem decVal_plain_of_ptile {w : GEx} {v : WVal} (hp : w.isPtile = true)
    (h : decVal (enc w) = some v) : decVal (enc w).plain = some .other := by
  cases w with
  | ptile vl p mn mx pr hdr width =>
    simp only [enc, Wire.plain] at h ⊢
    generalize Wire.mcons "Value" _ _ = body at h ⊢
    rw [decVal] at h
    cases hm : decMap body with
    | none => simp [hm, decBuild] at h
    | some m => exact decVal_of_decMap hm
  | _ => cases hp

theorem clearDeAgg_isPtile (g : GEx) : g.clearDeAgg.isPtile = g.isPtile := by
  cases g <;> rfl

/-- Round trip, on the level of `DecodeInterface`.  In every case the decoder is unfolded over the
    encoding down to the sub-expressions, where the induction hypothesis applies; what is left is
    `decBuild` looking up the fields of a concrete map. -/
theorem decVal_enc (g : GEx) (h : g.linked = true) : decVal (enc g) = some (.ex g.clearDeAgg) := by
  induction g <;> simp only [GEx.linked, Bool.and_eq_true, decide_eq_true_eq] at h
  case field | const => rfl
  case bounded w lo hi ih =>
    simp only [enc, decVal, decMap, decTup, ih h]
    rfl
  case agg name w u m ih =>
    simp only [enc, decVal, decMap, ih h.2]
    simp [decBuild, WMap.str, WMap.ex, List.lookup, GEx.clearDeAgg, h.1]
  case ifE c w width ih =>
    simp only [enc, decVal, decMap, ih h]
    rfl
  case avg v w ihv ihw =>
    simp only [enc, decVal, decMap, ihv h.1, ihw h.2]
    rfl
  case bin op l r da cf ihl ihr =>
    simp only [enc, decVal, decMap, ihl h.1.2, ihr h.2]
    simp [decBuild, WMap.str, WMap.ex, List.lookup, GEx.clearDeAgg, h.1.1]
  case shift w off width ih =>
    simp only [enc, decVal, decMap, ih h]
    rfl
  case unary name fn w width ih =>
    simp only [enc, decVal, decMap, ih h.2, h.1]
    rfl
  case ptile v p mn mx pr hdr width ihv ihp =>
    simp only [enc, decVal, decMap, ihv h.1, ihp h.2]
    rfl
  case ptileOpt emb w p ihe ihw ihp =>
    obtain ⟨⟨⟨⟨hew, hpt⟩, hle⟩, hlw⟩, hlp⟩ := h
    subst hew
    have hplain := decVal_plain_of_ptile hpt (ihe hle)
    simp only [enc, decVal, decMap, ihe hle, ihp hlp, hplain]
    simp [decBuild, WMap.ex, List.lookup, GEx.clearDeAgg, clearDeAgg_isPtile, hpt]

/-! Clearing `DeAggregated` is invisible to every observer except `Validate`. -/

theorem toks_clearDeAgg (x : Fmt) (g : GEx) : g.clearDeAgg.toks x = g.toks x := by
  induction g <;> simp only [GEx.clearDeAgg, GEx.toks, *]

theorem str_clearDeAgg (x : Fmt) (g : GEx) : g.clearDeAgg.str x = g.str x := by
  simp only [GEx.str, toks_clearDeAgg]

theorem encodedWidth_clearDeAgg (g : GEx) : g.clearDeAgg.encodedWidth = g.encodedWidth := by
  induction g <;> simp only [GEx.clearDeAgg, GEx.encodedWidth, *]

theorem toEx_clearDeAgg (cfg : Int → Int → Int → Int → Nat) (b : Bool) (g : GEx) :
    g.clearDeAgg.toEx cfg b = g.toEx cfg b := by
  induction g <;> simp only [GEx.clearDeAgg, GEx.toEx, *]

theorem linked_clearDeAgg (g : GEx) (h : g.linked = true) : g.clearDeAgg.linked = true := by
  induction g <;> simp_all [GEx.clearDeAgg, GEx.linked, clearDeAgg_isPtile]

theorem clearDeAgg_idem (g : GEx) : g.clearDeAgg.clearDeAgg = g.clearDeAgg := by
  induction g <;> simp only [GEx.clearDeAgg, *]

theorem obsEq_clearDeAgg (g : GEx) : ObsEq g.clearDeAgg g :=
  ⟨fun x => str_clearDeAgg x g, encodedWidth_clearDeAgg g, fun cfg b => toEx_clearDeAgg cfg b g⟩

/-- With freshly allocated outputs the heap only grows: the old heap is a prefix of the new
    one, the new buffers hold the encodings in order, the ids count up. -/
theorem sendAll_fresh (heap : List Wire) (gs : List GEx) :
    sendAll .fresh heap gs = (heap ++ gs.map enc, (List.range gs.length).map (· + heap.length)) := by
  induction gs generalizing heap with
  | nil => simp [sendAll]
  | cons g gs ih =>
    simp [sendAll, marshalInto, ih, List.range_succ_eq_map, Nat.add_comm, Nat.add_left_comm]

theorem throughWire_plain {α : Type} (isEmpty : α → Bool) (zero v : α) :
    throughWire {} isEmpty zero v = v := by
  simp [throughWire]

/-- With no `omitempty` / `-` anywhere a RemoteQueryResult comes back exactly, nil-ness of
    every slice, ByteMap and pointer included. -/
theorem RQR.roundTrip_plain (m : RQR) : m.roundTrip {} = m := by
  cases m
  simp [RQR.roundTrip, throughWire]

/-- The kind the leader infers is the kind the follower sent, provided the leader reads
    `Error` before it leaves its loop on `EndOfResults`, and the tags of the discriminating
    fields do not drop them: `Fields` and `Key` neither `omitempty` nor `-` (an empty field
    list / a key with zero dims must stay non-nil), `Row`, `EndOfResults` and `Error` not `-`
    (`omitempty` on a pointer, bool or string only drops nil / false / "", which decode as
    nil / false / "" anyway).  Holds for every message the follower sends: empty-key rows,
    and final messages that carry an error. -/
theorem leaderKind_roundTrip (t : RQRTags)
    (hf : t.fields.omitEmpty = false ∧ t.fields.skip = false)
    (hk : t.key.omitEmpty = false ∧ t.key.skip = false)
    (hr : t.row.skip = false) (he : t.endOfResults.skip = false) (hx : t.error.skip = false)
    (s : Sent) (unflat : Bool)
    (hq : match s with | .unflatRow _ _ => unflat = true | .flatRow _ => unflat = false | _ => True) :
    leaderKind true s.first unflat (s.msg.roundTrip t) = s.kind := by
  cases s with
  | fieldList fs => simp [leaderKind, Sent.first, Sent.msg, Sent.kind, RQR.roundTrip, throughWire, hf]
  | unflatRow k v =>
    subst hq
    simp [leaderKind, Sent.first, Sent.msg, Sent.kind, RQR.roundTrip, throughWire, hk, he, hx]
  | flatRow r =>
    subst hq
    simp [leaderKind, Sent.first, Sent.msg, Sent.kind, RQR.roundTrip, throughWire, hr, he, hx]
  | endOfResults st e =>
    by_cases hE : e = "" <;>
      simp [leaderKind, Sent.first, Sent.msg, Sent.kind, RQR.roundTrip, throughWire, he, hx, hE]

end Zeno
