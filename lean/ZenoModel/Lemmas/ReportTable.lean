/-
The table scan (C13): fileStore.iterate, the coalescing fan-out of doProcessIterations seen
from our iteration, and `table_inv`.
-/
import ZenoModel.Lemmas.Report

namespace Zeno.Report

def fileRows (file : List (Row × Bool)) : List Row := (file.filter (·.2)).map (·.1)

theorem fileRows_cons (r : Row) (b : Bool) (rest : List (Row × Bool)) :
    fileRows ((r, b) :: rest) = if b then r :: fileRows rest else fileRows rest := by
  cases b <;> rfl

theorem Table.rows_eq (t : Table) : t.rows = fileRows t.file ++ (if t.includeMem then t.mem else []) := rfl

/-- with the fix for D15 the file part is the delivery loop over the rows that map a requested
    column: a skipped row takes no time and calls nobody -/
theorem fileLoop_eq_feed {σ : Type} (s : Sink σ) (file : List (Row × Bool)) (st : σ) (now : Nat) :
    fileLoop true s st now file =
      ((feed s st now (fileRows file)).1, (feed s st now (fileRows file)).2.1,
        if (feed s st now (fileRows file)).2.2.ok then none else some (feed s st now (fileRows file)).2.2.err) := by
  fun_induction fileLoop true s st now file with
  | case1 => rfl
  | case2 st now r rest st1 d1 rep hr hk st2 d2 e hrec ih =>
    rw [hrec] at ih
    simp only [Prod.mk.injEq] at ih
    obtain ⟨rfl, rfl, rfl⟩ := ih
    simp only [fileRows_cons, if_true, feed, hr, hk]
  | case3 st now r rest st1 d1 rep hr hk => simp [fileRows_cons, feed, hr, hk]
  | case4 st now r incl rest hi _ ih =>
    rw [fileRows_cons, if_neg hi]
    exact ih
  | case5 _ _ _ _ _ _ h => exact absurd rfl h

/-- with the fixes for D3 and D15 fileStore.iterate is the delivery loop over the table's rows,
    and returns the error of the reply that ended it -/
theorem fileStore_eq_feed {σ : Type} (cfg : Cfg) (h3 : cfg.d3 = true) (h15 : cfg.d15 = true) (t : Table) (s : Sink σ)
    (st : σ) (now : Nat) :
    fileStoreIterate cfg t s st now =
      ((feed s st now t.rows).1, (feed s st now t.rows).2.1, (feed s st now t.rows).2.2.err) := by
  rw [t.rows_eq, feed_append, fileStoreIterate, h15, fileLoop_eq_feed, h3]
  cases hk : (feed s st now (fileRows t.file)).2.2.ok with
  | false => simp
  | true =>
    cases t.includeMem with
    | true => simp
    | false => simp [feed, Reply.proceed]

/-- file rows that map none of the requested columns are passed over without any callback and
    without any look at the deadline (row_store.go: `if !includesAtLeastOneColumn { continue }`;
    the only guard of the scan is `guard.ProceedAfter(onValue(..))`, after a delivered row) -/
theorem fileLoop_all_skipped {σ : Type} (s : Sink σ) (st : σ) :
    ∀ (file : List (Row × Bool)) (now : Nat), (∀ x, x ∈ file → x.2 = false) → fileLoop true s st now file = (st, 0, none) := by
  intro file now h
  have hr : fileRows file = [] := by
    simp only [fileRows, List.map_eq_nil_iff, List.filter_eq_nil_iff]
    exact fun x hx => by simp [h x hx]
  rw [fileLoop_eq_feed, hr]
  rfl

theorem fileStore_all_skipped {σ : Type} (cfg : Cfg) (h15 : cfg.d15 = true) (t : Table) (s : Sink σ) (st : σ) (now : Nat)
    (hf : ∀ x, x ∈ t.file → x.2 = false) (hm : t.includeMem = false ∨ t.mem = []) :
    fileStoreIterate cfg t s st now = (st, 0, none) := by
  unfold fileStoreIterate
  rw [h15, fileLoop_all_skipped s st t.file now hf]
  rcases hm with h | h
  · simp [h]
  · by_cases hi : t.includeMem = true
    · simp [hi, h, feed, Reply.proceed]
    · simp [hi]

theorem visitCo_frame {σ : Type} (mode : Coalesce) (c : CoIter) (f : Fan σ) (now : Nat) (r : Row) (more : Bool) :
    match visitCo mode c f now r more with
    | .abort _ _ _ => mode = .abortAll
    | .next f1 _ more1 => f1.ours = f.ours ∧ f1.oursAlive = f.oursAlive ∧ f1.oursErr = f.oursErr ∧ (more = true → more1 = true) := by
  fun_cases visitCo mode c f now r more <;> simp

/-- offering the row to our iteration: out of the batch nothing happens; in the batch our
    callback is called; on `(true, nil)` we stay; otherwise we leave the batch: at our own
    request, or with an error that is either handed to the scan (abort) or, read through our own
    guard, kept as our outcome (`oursErr`, `Coalesce.perIteration`) -/
theorem visitOurs_spec {σ : Type} (mode : Coalesce) (g : Guard) (s : Sink σ) (f : Fan σ) (now : Nat) (r : Row) (more : Bool) :
    ∃ st1 d1 rep0, s.onRow f.ours now r = (st1, d1, rep0) ∧
      match visitOurs mode g s f now r more with
      | .abort _ _ _ => mode = .abortAll
      | .next f1 _ more1 =>
        (f.oursAlive = false → f1.ours = f.ours ∧ f1.oursAlive = false ∧ f1.oursErr = f.oursErr) ∧
        (f.oursAlive = true → f1.ours = st1 ∧
          ((rep0.ok = true ∧ f1.oursAlive = true ∧ more1 = true) ∨
            (f1.oursAlive = false ∧
              ((rep0.ok = false ∧ rep0.err = none) ∨ (mode = .perIteration ∧ f1.oursErr ≠ none))))) := by
  unfold visitOurs
  generalize s.onRow f.ours now r = res
  obtain ⟨st1, d1, rep0⟩ := res
  refine ⟨st1, d1, rep0, rfl, ?_⟩
  cases ha : f.oursAlive with
  | false => simp [ha]
  | true =>
    simp only [Bool.not_true, Bool.false_eq_true, if_false]
    cases mode with
    | abortAll =>
      obtain ⟨m, e⟩ := rep0
      cases e <;> cases m <;> simp [Reply.ok]
    | perIteration =>
      simp only
      rcases g.proceedAfter_cases (now + d1) rep0 with hq | ⟨hk, hq⟩
      · rw [hq]
        obtain ⟨m, e⟩ := rep0
        cases e <;> cases m <;> simp [Reply.ok]
      · generalize g.proceedAfter (now + d1) rep0 = q at hq
        obtain ⟨m, e⟩ := q
        cases e with
        | none => exact absurd rfl hq
        | some e => simp

/-- one call of combinedOnValue seen from our iteration: an error of the whole scan is only
    possible under `Coalesce.abortAll`; otherwise our callback was called once if we are still in the batch -/
theorem fanout_step {σ : Type} {mode : Coalesce} {g : Guard} {s : Sink σ} {c : CoIter} {F F' : Fan σ} {now d : Nat} {r : Row}
    {rep : Reply} (h : (fanout mode g s c).onRow F now r = (F', d, rep)) :
    (rep.err ≠ none ∧ mode = .abortAll) ∨ (rep.err = none ∧
      (F.oursAlive = false → F'.ours = F.ours ∧ F'.oursAlive = false ∧ F'.oursErr = F.oursErr) ∧
      (F.oursAlive = true → ∃ now1 d1 rep0, s.onRow F.ours now1 r = (F'.ours, d1, rep0) ∧
        ((rep0.ok = true ∧ F'.oursAlive = true ∧ rep.more = true) ∨
          (F'.oursAlive = false ∧
            ((rep0.ok = false ∧ rep0.err = none) ∨ (mode = .perIteration ∧ F'.oursErr ≠ none)))))) := by
  simp only [fanout] at h
  cases hfirst : c.first with
  | true =>
    simp only [hfirst, if_true] at h
    have hco := visitCo_frame mode c F now r false
    generalize visitCo mode c F now r false = v1 at h hco
    cases v1 with
    | abort f1 d1 e =>
      cases h
      exact Or.inl ⟨by simp [Reply.fail], hco⟩
    | next f1 d1 more1 =>
      obtain ⟨c1, c2, c3, _⟩ := hco
      simp only at h
      obtain ⟨st1, d0, rep0, hr, ho⟩ := visitOurs_spec mode g s f1 (now + d1) r more1
      generalize visitOurs mode g s f1 (now + d1) r more1 = v2 at h ho
      cases v2 with
      | abort f2 d2 e =>
        cases h
        exact Or.inl ⟨by simp [Reply.fail], ho⟩
      | next f2 d2 more2 =>
        cases h
        -- the other iteration has not touched our part of the state
        simp only [c1, c2, c3] at hr ho
        exact Or.inr ⟨rfl, ho.1, fun hal => ⟨now + d1, d0, rep0, (ho.2 hal).1 ▸ hr, (ho.2 hal).2⟩⟩
  | false =>
    simp only [hfirst, Bool.false_eq_true, if_false] at h
    obtain ⟨st1, d0, rep0, hr, ho⟩ := visitOurs_spec mode g s F now r false
    generalize visitOurs mode g s F now r false = v1 at h ho
    cases v1 with
    | abort f1 d1 e =>
      cases h
      exact Or.inl ⟨by simp [Reply.fail], ho⟩
    | next f1 d1 more1 =>
      simp only at h
      have hco := visitCo_frame mode c f1 (now + d1) r more1
      generalize visitCo mode c f1 (now + d1) r more1 = v2 at h hco
      cases v2 with
      | abort f2 d2 e =>
        cases h
        exact Or.inl ⟨by simp [Reply.fail], hco⟩
      | next f2 d2 more2 =>
        cases h
        obtain ⟨c1, c2, c3, c4⟩ := hco
        simp only [← c1, ← c2, ← c3] at ho
        exact Or.inr ⟨rfl, ho.1, fun hal => ⟨now, d0, rep0, (ho.2 hal).1 ▸ hr,
          (ho.2 hal).2.imp (fun ⟨hk, ha1, hm⟩ => ⟨hk, ha1, c4 hm⟩) id⟩⟩

/-- under `Coalesce.perIteration` combinedOnValue never returns an error -/
theorem fanout_per_fed_err {σ : Type} {g : Guard} {s : Sink σ} {c : CoIter} {F F' : Fan σ} {l : List Row} {rep : Reply}
    (h : Fed (fanout .perIteration g s c) F l F' rep) : rep.err = none := by
  induction h with
  | nil => rfl
  | last hr _ => exact (fanout_step hr).elim (fun h => nomatch h.2) (·.1)
  | cons _ _ _ ih => exact ih

/-- a polite feeding of combinedOnValue is a polite feeding of our callback, provided the outcome
    our iteration kept for itself (`Coalesce.perIteration`) is not an error -/
theorem fanout_polite {σ : Type} {mode : Coalesce} {g : Guard} {s : Sink σ} {c : CoIter} {F F' : Fan σ} {l : List Row}
    (h : Polite (fanout mode g s c) F l F') (ha : F.oursAlive = true)
    (hE : mode = .perIteration → F'.oursAlive = false → F'.oursErr = none) : Polite s F.ours l F'.ours := by
  -- the call in which we leave the batch: what we kept is no error, so our callback asked to stop
  have left : ∀ {F F1 : Fan σ} {now1 d1 : Nat} {rep0 : Reply} {r : Row} (rs : List Row),
      s.onRow F.ours now1 r = (F1.ours, d1, rep0) →
      ((rep0.ok = false ∧ rep0.err = none) ∨ (mode = .perIteration ∧ F1.oursErr ≠ none)) →
      F'.ours = F1.ours → F'.oursAlive = false → F'.oursErr = F1.oursErr → Polite s F.ours (r :: rs) F'.ours := by
    intro F F1 now1 d1 rep0 r rs hro hwhy h1 h2 h3
    rcases hwhy with ⟨hk, he⟩ | ⟨hm, hne⟩
    · rw [h1]
      exact Polite.stop rs hro hk he
    · exact absurd (h3 ▸ hE hm h2) hne
  refine (Polite.induct (motive := fun F l => (F.oursAlive = true → Polite s F.ours l F'.ours) ∧
    (F.oursAlive = false → F'.ours = F.ours ∧ F'.oursAlive = false ∧ F'.oursErr = F.oursErr)) ?_ ?_ ?_ h).1 ha
  · exact ⟨fun _ => Polite.nil s _, fun hd => ⟨rfl, hd, rfl⟩⟩
  · intro F now r d rep rs hr hk he
    rcases fanout_step hr with ⟨hbad, _⟩ | ⟨_, hdead, hlive⟩
    · exact absurd he hbad
    · refine ⟨fun hal => ?_, hdead⟩
      obtain ⟨now1, d1, rep0, hro, ⟨_, _, hm⟩ | ⟨hd, hwhy⟩⟩ := hlive hal
      · have : rep.ok = true := by simp [Reply.ok, hm, he]
        rw [hk] at this
        cases this
      · exact left rs hro hwhy rfl hd rfl
  · intro F now r F1 d rep rs hr hk ih
    rcases fanout_step hr with ⟨hbad, _⟩ | ⟨_, hdead, hlive⟩
    · exact absurd (Reply.err_of_ok hk) hbad
    · constructor
      · intro hal
        obtain ⟨now1, d1, rep0, hro, ⟨hk0, ha1, _⟩ | ⟨hd, hwhy⟩⟩ := hlive hal
        · exact Polite.cons hro hk0 (ih.1 ha1)
        · obtain ⟨h1, h2, h3⟩ := ih.2 hd
          exact left rs hro hwhy h1 h2 h3
      · intro hd
        obtain ⟨a1, a2, a3⟩ := hdead hd
        obtain ⟨b1, b2, b3⟩ := ih.2 a2
        exact ⟨b1.trans a1, b2, b3.trans a3⟩

theorem fileStore_polite {σ : Type} {cfg : Cfg} (h3 : cfg.d3 = true) (h15 : cfg.d15 = true) (t : Table) (s : Sink σ)
    (st : σ) (now : Nat) (he : (fileStoreIterate cfg t s st now).2.2 = none) :
    Polite s st t.rows (fileStoreIterate cfg t s st now).1 := by
  rw [fileStore_eq_feed cfg h3 h15] at he ⊢
  exact feed_polite s st now t.rows he

theorem coalesced_polite {σ : Type} (env : Env) (h3 : env.cfg.d3 = true) (h15 : env.cfg.d15 = true) (t : Table)
    (s : Sink σ) (st : σ) (now : Nat) (he : (coalescedScan env t s st now).2.2 = none) :
    Polite s st t.rows (coalescedScan env t s st now).1 := by
  -- `Coalesce.perIteration`: the scan itself cannot fail, our outcome is what we kept when we left the batch
  have per : ∀ (c : CoIter) (F : Fan σ), F.oursAlive = true →
      (if (fileStoreIterate env.cfg t (fanout .perIteration env.guard s c) F now).1.oursAlive
        then (fileStoreIterate env.cfg t (fanout .perIteration env.guard s c) F now).2.2
        else (fileStoreIterate env.cfg t (fanout .perIteration env.guard s c) F now).1.oursErr) = none →
      Polite s F.ours t.rows (fileStoreIterate env.cfg t (fanout .perIteration env.guard s c) F now).1.ours := by
    intro c F ha he
    have herr : (fileStoreIterate env.cfg t (fanout .perIteration env.guard s c) F now).2.2 = none := by
      rw [fileStore_eq_feed _ h3 h15]
      obtain ⟨m, _, hf, _⟩ := feed_fed (fanout .perIteration env.guard s c) F now t.rows
      exact fanout_per_fed_err hf
    refine fanout_polite (fileStore_polite h3 h15 t _ F now herr) ha (fun _ hd => ?_)
    simpa [hd] using he
  unfold coalescedScan at he ⊢
  cases hco : t.co with
  | none =>
    cases hmode : env.cfg.coalesce with
    | abortAll =>
      simp only [hco, hmode] at he ⊢
      have hp := wrap_polite (guardStep_ok env.guard) s () st _ _ t.rows trivial (fileStore_polite h3 h15 t _ _ now he)
      rwa [specRun_id] at hp
    | perIteration =>
      simp only [hco, hmode] at he ⊢
      exact per _ _ rfl he
  | some c =>
    cases hmode : env.cfg.coalesce with
    | abortAll =>
      simp only [hco, hmode] at he ⊢
      have hp := wrap_polite (guardStep_ok _) (fanout .abortAll env.guard s c) () _ _ _ t.rows trivial
        (fileStore_polite h3 h15 t _ _ now he)
      rw [specRun_id] at hp
      exact fanout_polite hp rfl nofun
    | perIteration =>
      simp only [hco, hmode] at he ⊢
      exact per _ _ rfl he

theorem table_inv (env : Env) (hfix : env.cfg.Fixed) (t : Table) : Inv env (.table t) := by
  intro σ s st now h
  refine ⟨t.rows, rfl, ?_⟩
  simp only [iterate, tableIterate, hfix.2.2.2.2.2] at h ⊢
  have hp := coalesced_polite env hfix.1 hfix.2.1 t _ _ now ((Res.told_eq_false_iff _).1 h).1
  have h1 := wrap_polite recoverStep_ok (wrap (oomStep t.oomAt) s) () (1, st) _ _ t.rows trivial hp
  rw [specRun_id] at h1
  have h2 := wrap_polite (oomStep_ok t.oomAt) s 1 st _ _ t.rows trivial h1
  rwa [specRun_id] at h2

end Zeno.Report
