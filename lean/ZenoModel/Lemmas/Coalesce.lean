/-
Helper lemmas for C17 (Model/Coalesce.lean): the field union, the mapping back to an
iteration's own columns, and the decomposition of the shared scan into independent
per-iteration runs.  The file opens with namespace `CoalesceSpec`, the vocabulary in which C17 is
stated (`projectRow`, `consume`, `alone`): the lemmas below need it, so it stands here and not in
Props/C17.lean.
-/
import ZenoModel.Model.Coalesce

/-! ## Specification vocabulary (what "the result it would get alone" means) -/
namespace Zeno.CoalesceSpec
open Zeno.Coalesce

/-- the value of field `f` in a positional row over the field list `union`
    (first position holding `f`; nil when `f` is not a column of the scan) -/
def lookupField : List FieldId → List Val → FieldId → Val
  | u :: us, v :: vs, f => if u == f then v else lookupField us vs f
  | _, _, _ => none

/-- projection of a positional row over `union` onto `fields`, in the order of `fields` -/
def projectRow (union fields : List FieldId) (r : Row) : Recv :=
  (r.key, fields.map (lookupField union r.vals))

/-- an iteration consuming one row that is already laid out for it: the callback, then the
    iteration's own deadline check; a finished iteration ignores the row -/
def consumeStep {σ : Type} (it : Iter σ) (n : Nat) (rv : Recv) (s : ItState σ) : ItState σ :=
  match s.done with
  | some _ => s
  | none =>
    let (st', more, err) := it.onValue s.st rv.1 rv.2
    let (more, err) := proceedAfter (timedOut it.deadline n) more err
    if !more || err.isSome then { st := st', recv := s.recv ++ [rv], done := some err }
    else { st := st', recv := s.recv ++ [rv], done := none }

/-- an iteration consuming a sequence of rows laid out for it, first row has scan index `n` -/
def consume {σ : Type} (it : Iter σ) : Nat → List Recv → ItState σ → ItState σ
  | _, [], s => s
  | n, rv :: rvs, s => consume it (n + 1) rvs (consumeStep it n rv s)

/-- what iteration `it` gets from a scan that yields `rows` (laid out for it) and then ends
    with `fail`: this is the behaviour of a query that runs alone -/
def alone {σ : Type} (it : Iter σ) (rows : List Recv) (fail : Option Err) : ItResult σ :=
  (consume it 0 rows it.start).result fail

end Zeno.CoalesceSpec

namespace Zeno.Coalesce
open Zeno.CoalesceSpec

theorem contains_iff (l : List FieldId) (f : FieldId) : l.contains f = true ↔ f ∈ l := by
  simp

theorem mem_addFields (acc fs : List FieldId) (f : FieldId) :
    f ∈ addFields acc fs ↔ f ∈ acc ∨ f ∈ fs := by
  induction fs generalizing acc with
  | nil => simp [addFields]
  | cons g gs ih =>
    simp only [addFields, ih, List.contains_iff_mem, List.mem_cons]
    split
    · constructor
      · rintro (h | h)
        · exact Or.inl h
        · exact Or.inr (Or.inr h)
      · rintro (h | rfl | h)
        · exact Or.inl h
        · exact Or.inl ‹_›
        · exact Or.inr h
    · rw [List.mem_append, List.mem_singleton, or_assoc]

theorem addFields_nodup (acc fs : List FieldId) (h : acc.Nodup) : (addFields acc fs).Nodup := by
  induction fs generalizing acc with
  | nil => exact h
  | cons g gs ih =>
    apply ih
    split
    · exact h
    · rename_i hg
      refine List.nodup_append.mpr ⟨h, List.nodup_cons.mpr ⟨List.not_mem_nil, List.nodup_nil⟩, ?_⟩
      rintro a ha b hb rfl
      exact hg (List.contains_iff_mem.mpr (List.mem_singleton.mp hb ▸ ha))

/-- the accumulated prefix is never reordered: first-occurrence order -/
theorem addFields_prefix (acc fs : List FieldId) : acc <+: addFields acc fs := by
  induction fs generalizing acc with
  | nil => exact List.prefix_refl acc
  | cons g gs ih =>
    simp only [addFields]
    split
    · exact ih acc
    · exact (List.prefix_append acc [g]).trans (ih (acc ++ [g]))

theorem addFields_fresh (acc fs : List FieldId) (hnd : fs.Nodup) (hdis : ∀ f ∈ fs, f ∉ acc) :
    addFields acc fs = acc ++ fs := by
  induction fs generalizing acc with
  | nil => exact (List.append_nil acc).symm
  | cons g gs ih =>
    have hnd' := List.nodup_cons.mp hnd
    have hg : acc.contains g = false := by simpa using hdis g List.mem_cons_self
    rw [addFields, hg, if_neg Bool.false_ne_true, ih (acc ++ [g]) hnd'.2, List.append_assoc,
      List.singleton_append]
    intro f hf hm
    rcases List.mem_append.mp hm with h | h
    · exact hdis f (List.mem_cons_of_mem _ hf) h
    · exact hnd'.1 (List.mem_singleton.mp h ▸ hf)

theorem mem_unionFields {σ : Type} (its : List (Iter σ)) (acc : List FieldId) (f : FieldId) :
    f ∈ unionFields its acc ↔ f ∈ acc ∨ ∃ it ∈ its, f ∈ it.fields := by
  induction its generalizing acc with
  | nil => simp [unionFields]
  | cons it its ih =>
    simp only [unionFields, ih, mem_addFields, or_assoc, List.mem_cons, or_and_right, exists_or,
      exists_eq_left]

theorem mem_unionFields_of_mem {σ : Type} {its : List (Iter σ)} {it : Iter σ} (hit : it ∈ its)
    {f : FieldId} (hf : f ∈ it.fields) : f ∈ unionFields its [] :=
  (mem_unionFields its [] f).mpr (Or.inr ⟨it, hit, hf⟩)

theorem unionFields_nodup {σ : Type} (its : List (Iter σ)) (acc : List FieldId) (h : acc.Nodup) :
    (unionFields its acc).Nodup := by
  induction its generalizing acc with
  | nil => simpa [unionFields]
  | cons it its ih => exact ih _ (addFields_nodup _ _ h)

theorem unionFields_single {σ : Type} (it : Iter σ) (h : it.fields.Nodup) :
    unionFields [it] [] = it.fields := by
  simp [unionFields, addFields_fresh [] it.fields h (by simp)]

theorem lookupField_cons_self (f : FieldId) (us : List FieldId) (v : Val) (vs : List Val) :
    lookupField (f :: us) (v :: vs) f = v := by
  simp [lookupField]

theorem lookupField_cons_ne {u f : FieldId} (h : u ≠ f) (us : List FieldId) (v : Val)
    (vs : List Val) : lookupField (u :: us) (v :: vs) f = lookupField us vs f := by
  simp [lookupField, h]

theorem lookupField_map (U : List FieldId) (g : FieldId → Val) (f : FieldId) (h : f ∈ U) :
    lookupField U (U.map g) f = g f := by
  induction U with
  | nil => cases h
  | cons u us ih =>
    by_cases hu : u = f
    · rw [hu, List.map_cons, lookupField_cons_self]
    · rw [List.map_cons, lookupField_cons_ne hu,
        ih ((List.mem_cons.mp h).resolve_left (Ne.symm hu))]

/-- a field without a value in the row (not a column of the scan, or beyond the values the
    row carries) reads as nil -/
theorem lookupField_not_mem_take (U : List FieldId) (vs : List Val) (f : FieldId)
    (h : f ∉ U.take vs.length) : lookupField U vs f = none := by
  induction U generalizing vs with
  | nil => simp [lookupField]
  | cons u us ih =>
    cases vs with
    | nil => simp [lookupField]
    | cons v vs =>
      simp only [List.length_cons, List.take_succ_cons, List.mem_cons, not_or] at h
      rw [lookupField_cons_ne (Ne.symm h.1), ih vs h.2]

theorem lookupField_not_mem (U : List FieldId) (vs : List Val) (f : FieldId) (h : f ∉ U) :
    lookupField U vs f = none :=
  lookupField_not_mem_take U vs f fun hm => h (List.mem_of_mem_take hm)

theorem map_lookupField_self (F : List FieldId) (vs : List Val) (hnd : F.Nodup)
    (hlen : vs.length = F.length) : F.map (lookupField F vs) = vs := by
  induction F generalizing vs with
  | nil => exact (List.eq_nil_of_length_eq_zero hlen).symm
  | cons f fs ih =>
    cases vs with
    | nil => cases hlen
    | cons v vs =>
      have hnd' := List.nodup_cons.mp hnd
      have hrest : fs.map (lookupField (f :: fs) (v :: vs)) = fs.map (lookupField fs vs) :=
        List.map_congr_left fun g hg =>
          lookupField_cons_ne (fun e : f = g => hnd'.1 (e ▸ hg)) fs v vs
      rw [List.map_cons, lookupField_cons_self, hrest, ih vs hnd'.2 (Nat.succ.inj hlen)]

theorem assign_cons_self (u : FieldId) (fs : List FieldId) (a : Val) (acc : List Val) (v : Val) :
    assign (u :: fs) (a :: acc) u v = v :: acc := by
  simp [assign, indexOfOutField]

theorem assign_cons_ne {f u : FieldId} (h : f ≠ u) (fs : List FieldId) (a : Val) (acc : List Val)
    (v : Val) : assign (f :: fs) (a :: acc) u v = a :: assign fs acc u v := by
  simp only [assign, indexOfOutField, beq_false_of_ne h]
  cases indexOfOutField fs u <;> rfl

/-- one assignment `itVals[indexOfOutField(u)] = v` on a value array that is a function of
    the field: only the (unique) position of `u` changes -/
theorem assign_map (F : List FieldId) (hnd : F.Nodup) (g : FieldId → Val) (u : FieldId) (v : Val) :
    assign F (F.map g) u v = F.map (fun f => if f == u then v else g f) := by
  induction F with
  | nil => rfl
  | cons f fs ih =>
    have hnd' := List.nodup_cons.mp hnd
    by_cases hf : f = u
    · subst hf
      simp only [List.map_cons, assign_cons_self, beq_self_eq_true, if_true, List.cons.injEq, true_and]
      exact List.map_congr_left fun a ha => by simp [show a ≠ f from fun e => hnd'.1 (e ▸ ha)]
    · simp [assign_cons_ne hf, ih hnd'.2, hf]

theorem mapBackInto_eq (F : List FieldId) (hnd : F.Nodup) (us : List FieldId) (vs : List Val)
    (hus : us.Nodup) (g : FieldId → Val) :
    mapBackInto F us vs (F.map g) =
      F.map (fun f => if f ∈ us.take vs.length then lookupField us vs f else g f) := by
  induction us generalizing vs g with
  | nil => simp [mapBackInto]
  | cons u us ih =>
    cases vs with
    | nil => simp [mapBackInto]
    | cons v vs =>
      have hus' := List.nodup_cons.mp hus
      simp only [mapBackInto]
      rw [assign_map F hnd g u v, ih vs hus'.2]
      apply List.map_congr_left
      intro f hf
      simp only [List.length_cons, List.take_succ_cons, List.mem_cons]
      by_cases hfu : f = u
      · subst hfu
        have : f ∉ us.take vs.length := fun h => hus'.1 (List.mem_of_mem_take h)
        simp [this, lookupField_cons_self]
      · simp [hfu, lookupField_cons_ne (Ne.symm hfu)]

/-- `mapBack` hands an iteration exactly the projection of the shared row onto its own
    fields, in its own order -/
theorem mapBack_eq_project (U F : List FieldId) (vs : List Val) (hU : U.Nodup) (hF : F.Nodup) :
    mapBack U F vs = F.map (lookupField U vs) := by
  have h0 : List.replicate F.length (none : Val) = F.map (fun _ => none) := by
    simp [List.map_const']
  unfold mapBack
  rw [h0, mapBackInto_eq F hF U vs hU]
  apply List.map_congr_left
  intro f hf
  by_cases h : f ∈ U.take vs.length
  · simp [h]
  · simp [h, lookupField_not_mem_take U vs f h]

theorem step_eq_consumeStep {σ : Type} (it : Iter σ) (U : List FieldId) (n : Nat) (r : Row)
    (s : ItState σ) :
    it.step U n r s = consumeStep it n (r.key, mapBack U it.fields r.vals) s := by
  unfold Iter.step consumeStep
  cases s.done <;> rfl

theorem consumeStep_done {σ : Type} (it : Iter σ) (n : Nat) (rv : Recv) (s : ItState σ)
    (h : s.done.isSome) : consumeStep it n rv s = s := by
  unfold consumeStep
  cases hd : s.done with
  | none => simp [hd] at h
  | some _ => rfl

theorem consume_done {σ : Type} (it : Iter σ) (n : Nat) (rvs : List Recv) (s : ItState σ)
    (h : s.done.isSome) : consume it n rvs s = s := by
  induction rvs generalizing n with
  | nil => rfl
  | cons rv rvs ih => simp [consume, consumeStep_done it n rv s h, ih]

theorem consumeStep_recv {σ : Type} (it : Iter σ) (n : Nat) (rv : Recv) {s : ItState σ}
    (hd : s.done = none) : (consumeStep it n rv s).recv = s.recv ++ [rv] := by
  unfold consumeStep
  simp only [hd]
  split <;> rfl

theorem consume_recv {σ : Type} (it : Iter σ) (n : Nat) (rows : List Recv) (s : ItState σ) :
    ∃ k, (consume it n rows s).recv = s.recv ++ rows.take k ∧
      ((consume it n rows s).done = none → rows.length ≤ k) := by
  induction rows generalizing n s with
  | nil => exact ⟨0, by simp [consume], fun _ => Nat.le_refl _⟩
  | cons rv rvs ih =>
    cases hd : s.done with
    | some e =>
      rw [consume_done it n _ s (by simp [hd])]
      exact ⟨0, by simp, by simp [hd]⟩
    | none =>
      obtain ⟨k, hk, hl⟩ := ih (n + 1) (consumeStep it n rv s)
      refine ⟨k + 1, ?_, fun h => Nat.succ_le_succ (hl h)⟩
      rw [consume, hk, consumeStep_recv it n rv hd]
      simp

/-- run of one iteration over the shared rows -/
def runIter {σ : Type} (it : Iter σ) (U : List FieldId) : Nat → List Row → ItState σ → ItState σ
  | _, [], s => s
  | n, r :: rs, s => runIter it U (n + 1) rs (it.step U n r s)

theorem runIter_eq_consume {σ : Type} (it : Iter σ) (U : List FieldId) (n : Nat) (rows : List Row)
    (s : ItState σ) :
    runIter it U n rows s = consume it n (rows.map (fun r => (r.key, mapBack U it.fields r.vals))) s := by
  induction rows generalizing n s with
  | nil => rfl
  | cons r rs ih => simp [runIter, consume, step_eq_consumeStep, ih]

theorem runIter_done {σ : Type} (it : Iter σ) (U : List FieldId) (n : Nat) (rows : List Row)
    (s : ItState σ) (h : s.done.isSome) : runIter it U n rows s = s := by
  rw [runIter_eq_consume]; exact consume_done _ _ _ _ h

theorem zipWith_zipWith_left {α β : Type} (f g : α → β → β) (as : List α) (bs : List β) :
    List.zipWith f as (List.zipWith g as bs) = List.zipWith (fun a b => f a (g a b)) as bs := by
  induction as generalizing bs with
  | nil => simp
  | cons a as ih => cases bs <;> simp [ih]

theorem zipWith_id_of_all {α β : Type} (f : α → β → β) (as : List α) (bs : List β)
    (hlen : as.length = bs.length) (h : ∀ a ∈ as, ∀ b ∈ bs, f a b = b) :
    List.zipWith f as bs = bs := by
  induction as generalizing bs with
  | nil => cases bs <;> simp_all
  | cons a as ih =>
    cases bs with
    | nil => simp at hlen
    | cons b bs =>
      simp
      exact ⟨h a (by simp) b (by simp), ih bs (by simpa using hlen)
        (fun a' ha' b' hb' => h a' (by simp [ha']) b' (by simp [hb']))⟩

/-- the shared scan is nothing but every iteration's own run over the same rows -/
theorem scanLoop_eq_runs {σ : Type} (its : List (Iter σ)) (U : List FieldId) (n : Nat)
    (rows : List Row) (ss : List (ItState σ)) (hlen : its.length = ss.length) :
    scanLoop its U n rows ss = List.zipWith (fun it s => runIter it U n rows s) its ss := by
  induction rows generalizing n ss with
  | nil =>
    simp only [scanLoop, runIter]
    exact (zipWith_id_of_all _ its ss hlen (fun _ _ _ _ => rfl)).symm
  | cons r rs ih =>
    simp only [scanLoop, runIter]
    have hlen' : its.length = (combined its U n r ss).length := by
      simp [combined, hlen]
    by_cases hrem : anyRemaining (combined its U n r ss) = true
    · simp only [hrem, if_true]
      rw [ih (n + 1) _ hlen']
      exact zipWith_zipWith_left _ _ its ss
    · simp only [hrem]
      have hall : ∀ s ∈ combined its U n r ss, s.done.isSome := by
        simpa [anyRemaining, Option.isSome_iff_ne_none] using hrem
      have := zipWith_id_of_all (fun it s => runIter it U (n + 1) rs s) its
        (combined its U n r ss) hlen' (fun it _ s hs => runIter_done it U (n + 1) rs s (hall s hs))
      rw [← zipWith_zipWith_left (fun it s => runIter it U (n + 1) rs s)
        (fun it s => it.step U n r s) its ss]
      exact this.symm

theorem doProcessIterations_eq_map {σ : Type} (scan : List FieldId → Bool → Stream)
    (its : List (Iter σ)) :
    doProcessIterations scan its = its.map fun it =>
      (runIter it (unionFields its []) 0 (scan (unionFields its []) (orMem its)).rows it.start).result
        (scan (unionFields its []) (orMem its)).fail := by
  unfold doProcessIterations
  simp only
  rw [scanLoop_eq_runs its _ 0 _ _ (List.length_map _).symm, List.zipWith_map_right, List.zipWith_self,
    List.map_map]
  rfl

end Zeno.Coalesce
