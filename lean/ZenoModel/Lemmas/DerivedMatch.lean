/-
Derived selected expressions: facts about printed identity (`sameStr`), the first matching column
(`matchIdx`) and `bytetree.New`'s de-duplication (`dedupInputs`).
-/
import ZenoModel.Lemmas.DerivedAsm
import ZenoModel.Lemmas.SubMergeSemGroup
namespace Zeno

theorem norm_shape (e : Ex) : e.norm.shape = e.shape := by
  induction e <;> simp_all [Ex.norm, Ex.shape]

theorem sameStr_shape {a b : Ex} (h : a.sameStr b = true) : a.shape = b.shape := by
  rw [← norm_shape a, ← norm_shape b, (sameStr_iff a b).mp h]

def emptyCell : CK → Cell
  | .agg => .agg none
  | .avg => .avg none
  | .hist => .hist none

theorem empty_eq_shape (e : Ex) : e.empty = e.shape.map emptyCell := by
  induction e <;> simp_all [Ex.empty, Ex.shape, emptyCell]

theorem sameStr_empty {a b : Ex} (h : a.sameStr b = true) : a.empty = b.empty := by
  rw [empty_eq_shape a, empty_eq_shape b, sameStr_shape h]

theorem sameStr_wf {a b : Ex} (h : a.sameStr b = true) {o : List Cell} (hw : WF b o) : WF a o := by
  unfold WF at *; rw [sameStr_shape h]; exact hw

/-- column `j` is the first of the columns that print like it (the one `bytetree.New` keeps) -/
def FirstCol (subs : List Ex) (j : Nat) : Prop :=
  ∀ i, i < j → ∀ s t, subs[i]? = some s → subs[j]? = some t → s.sameStr t = false

theorem matchIdx_some {n : Ex} {subs : List Ex} {i : Nat} (h : n.matchIdx subs = some i) :
    ∃ s, subs[i]? = some s ∧ n.sameStr s = true ∧
      ∀ i', i' < i → ∀ s', subs[i']? = some s' → n.sameStr s' = false := by
  obtain ⟨hi, hp, hlt⟩ := List.findIdx?_eq_some_iff_getElem.mp h
  refine ⟨subs[i], List.getElem?_eq_getElem hi, hp, fun i' hi' s' hs' => ?_⟩
  obtain ⟨hl, rfl⟩ := List.getElem?_eq_some_iff.mp hs'
  simpa using hlt i' hi'

theorem matchIdx_lt {n : Ex} {subs : List Ex} {i : Nat} (h : n.matchIdx subs = some i) : i < subs.length :=
  (List.findIdx?_eq_some_iff_getElem.mp h).1

theorem matchIdx_none {n : Ex} {subs : List Ex} (h : n.matchIdx subs = none) :
    ∀ s ∈ subs, n.sameStr s = false := List.findIdx?_eq_none_iff.mp h

theorem matchIdx_first {n : Ex} {subs : List Ex} {j : Nat} {cj : Ex} (hj : subs[j]? = some cj)
    (hf : FirstCol subs j) : n.matchIdx subs = some j ↔ n.sameStr cj = true := by
  obtain ⟨hl, rfl⟩ := List.getElem?_eq_some_iff.mp hj
  unfold Ex.matchIdx
  rw [List.findIdx?_eq_some_iff_getElem]
  constructor
  · rintro ⟨_, h, _⟩
    exact h
  · intro h
    refine ⟨hl, h, fun i hi hc => ?_⟩
    have := hf i hi subs[i] subs[j] (List.getElem?_eq_getElem _) hj
    rw [sameStr_trans (sameStr_symm hc) h] at this
    cases this

theorem firstCol_of_matchIdx {n : Ex} {subs : List Ex} {j : Nat} (h : n.matchIdx subs = some j) :
    FirstCol subs j := by
  obtain ⟨s, hs, hms, hlt⟩ := matchIdx_some h
  intro i hi s' t hs' ht
  obtain rfl : s = t := Option.some.inj (hs.symm.trans ht)
  exact Bool.eq_false_iff.mpr fun hc =>
    Bool.eq_false_iff.mp (hlt i hi s' hs') (sameStr_trans hms (sameStr_symm hc))

theorem any_eq_matchIdx (n : Ex) (subs : List Ex) :
    subs.any (fun s => n.sameStr s) = (n.matchIdx subs).isSome := by
  unfold Ex.matchIdx; rw [List.findIdx?_isSome]

theorem matchIdx_any_true {n : Ex} {subs : List Ex} {i : Nat} (hm : n.matchIdx subs = some i) :
    subs.any (fun s => n.sameStr s) = true := by rw [any_eq_matchIdx, hm]; rfl

theorem matchIdx_any_false {n : Ex} {subs : List Ex} (hm : n.matchIdx subs = none) :
    subs.any (fun s => n.sameStr s) = false := by rw [any_eq_matchIdx, hm]; rfl

/-- `bytetree.New`'s test "an earlier column prints the same" -/
theorem dedup_test_iff (subs : List Ex) (j : Nat) (cj : Ex) (hj : subs[j]? = some cj) :
    (subs.take j).any (fun e' => e'.sameStr cj) = false ↔ FirstCol subs j := by
  simp only [List.any_eq_false, List.mem_iff_getElem?, List.getElem?_take, FirstCol, hj, Option.some.injEq,
    Bool.not_eq_true]
  constructor
  · intro h i hi s t hs ht
    subst ht
    exact h s ⟨i, by simp [hi, hs]⟩
  · rintro h s ⟨i, hi⟩
    split at hi
    · exact h i ‹_› s cj hi rfl
    · cases hi

theorem length_subMergers (e : Ex) (subs : List Ex) : (e.subMergers subs).length = subs.length := by
  induction e with
  | bin op l r _ _ => simp only [Ex.subMergers]; split <;> simp
  | ifE c w ih | bounded w lo hi ih | shift w off ih | unary f w ih => simp only [Ex.subMergers]; split <;> simp [ih]
  | _ => simp [Ex.subMergers]

/-- the sub-merger `core.Group` uses for column `j`: that of `Expr.SubMergers` for a kept column,
    none for a dropped one -/
theorem colSM_eq (e : Ex) (subs : List Ex) (j : Nat) (cj : Ex) (hj : subs[j]? = some cj) :
    colSM e subs j =
      if (subs.take j).any (fun e' => e'.sameStr cj) then none else (e.subMergers subs).getD j none := by
  have hl : j < (e.subMergers subs).length := by
    rw [length_subMergers]
    exact (List.getElem?_eq_some_iff.mp hj).1
  unfold colSM
  rw [List.getD_eq_getElem?_getD, getElem?_dedupInputs, List.getD_eq_getElem?_getD, List.getElem?_eq_getElem hl, hj]
  simp only [Option.map_some, Option.getD_some]

end Zeno
