/-
Lemmas about M-EXPR: well-formed states (`WF`), and the "consumes exactly its own cells"
structure of get / update / merge.  The algebra of `mrg` is in `ExprLaws.lean`, the
property-level statements in `Props/C05.lean`.
-/
import ZenoModel.Model.Expr

namespace Zeno
open Gen

inductive CK | agg | avg | hist
  deriving DecidableEq, Repr

def Cell.kind : Cell → CK
  | .agg _ => .agg
  | .avg _ => .avg
  | .hist _ => .hist

/-- the kinds of the cells of `e`'s state, in layout order -/
def Ex.shape : Ex → List CK
  | .field _ => []
  | .const _ => []
  | .agg _ w => .agg :: w.shape
  | .avg v _ => .avg :: v.shape
  | .bin _ l r => l.shape ++ r.shape
  | .ifE _ w => w.shape
  | .bounded w _ _ => w.shape
  | .shift w _ => w.shape
  | .unary _ w => w.shape
  | .ptile _ v _ _ => .hist :: v.shape

/-- the state `cs` has exactly the cells of `e`, of the right kinds -/
def WF (e : Ex) (cs : List Cell) : Prop := cs.map Cell.kind = e.shape

def Ex.noPtile : Ex → Bool
  | .field _ => true
  | .const _ => true
  | .agg _ w => w.noPtile
  | .avg v w => v.noPtile && w.noPtile
  | .bin _ l r => l.noPtile && r.noPtile
  | .ifE _ w => w.noPtile
  | .bounded w _ _ => w.noPtile
  | .shift w _ => w.noPtile
  | .unary _ w => w.noPtile
  | .ptile _ _ _ _ => false

theorem shape_length (e : Ex) : e.shape.length = e.width := by
  induction e <;> simp_all [Ex.shape, Ex.width] <;> omega

theorem WF.length {e : Ex} {cs : List Cell} (h : WF e cs) : cs.length = e.width := by
  have := congrArg List.length h
  simpa [shape_length] using this

theorem leafArg_shape {w : Ex} (h : w.isLeafArg = true) : w.shape = [] := by
  induction w <;> simp_all [Ex.isLeafArg, Ex.shape]

theorem leafArg_width {w : Ex} (h : w.isLeafArg = true) : w.width = 0 := by
  rw [← shape_length, leafArg_shape h]; rfl

theorem width0_shape {w : Ex} (h : w.width = 0) : w.shape = [] := by
  have := shape_length w
  rw [h] at this
  exact List.length_eq_zero_iff.mp this

theorem wf_empty (e : Ex) : WF e e.empty := by
  induction e <;> simp_all [WF, Ex.empty, Ex.shape, Cell.kind]

theorem const_shape {e : Ex} : e.isConstant = true → e.shape = [] := by
  induction e <;> simp_all [Ex.isConstant, Ex.shape]

theorem wf_nil_of_shape_nil {e : Ex} (h : e.shape = []) {cs : List Cell} (hw : WF e cs) : cs = [] := by
  unfold WF at hw
  rw [h] at hw
  simpa using hw

theorem wf_split {op : BinOp} {l r : Ex} {cs : List Cell} (h : WF (.bin op l r) cs) :
    ∃ cl cr, cs = cl ++ cr ∧ WF l cl ∧ WF r cr := by
  have h : cs.map Cell.kind = l.shape ++ r.shape := h
  refine ⟨cs.take l.shape.length, cs.drop l.shape.length, (List.take_append_drop _ _).symm, ?_, ?_⟩
  · unfold WF
    rw [List.map_take, h, List.take_left']
    rfl
  · unfold WF
    rw [List.map_drop, h, List.drop_left']
    rfl

/-- value and "updated" flag a stateless argument yields for a point -/
def Ex.argVal (x : Ext) (w : Ex) (p : Pt) : Rat := (w.update x [] p).2.2.1
def Ex.argUpd (x : Ext) (w : Ex) (p : Pt) : Bool := (w.update x [] p).2.2.2

theorem width0_get (x : Ext) {w : Ex} (h : w.width = 0) (cs : List Cell) :
    w.get x cs = ((w.get x []).1, (w.get x []).2.1, cs) := by
  induction w generalizing cs with
  | field n => simp [Ex.get]
  | const v => simp [Ex.get]
  | agg k w _ => simp [Ex.width] at h
  | avg v w _ _ => simp [Ex.width] at h
  | ptile _ v p' n _ _ => simp [Ex.width] at h
  | bin op l r ihl ihr =>
      have hl : l.width = 0 := by simp [Ex.width] at h; omega
      have hr : r.width = 0 := by simp [Ex.width] at h; omega
      simp only [Ex.get]
      rw [ihl hl cs, ihr hr cs, ihr hr (l.get x []).2.2, ihl hl []]
      simp only
      split <;> rfl
  | ifE c w ih => exact ih h cs
  | bounded w lo hi ih =>
      simp only [Ex.get]
      rw [ih h cs]
      simp only
      split <;> rfl
  | shift w off ih => exact ih h cs
  | unary f w ih =>
      simp only [Ex.get]
      rw [ih h cs]

/-- width-0 expressions never touch the state, and what they yield does not depend on it -/
theorem width0_update (x : Ext) {w : Ex} (h : w.width = 0) (cs : List Cell) (p : Pt) :
    w.update x cs p = ([], cs, w.argVal x p, w.argUpd x p) := by
  induction w generalizing cs with
  | field n =>
      simp only [Ex.update, Ex.argVal, Ex.argUpd]
      cases p.get n <;> rfl
  | const v => rfl
  | agg k w _ => simp [Ex.width] at h
  | avg v w _ _ => simp [Ex.width] at h
  | ptile _ v p' n _ _ => simp [Ex.width] at h
  | bin op l r ihl ihr =>
      have hl : l.width = 0 := by simp [Ex.width] at h; omega
      have hr : r.width = 0 := by simp [Ex.width] at h; omega
      simp only [Ex.update, Ex.argVal, Ex.argUpd]
      rw [ihl hl cs, ihr hr cs, ihl hl [], ihr hr []]
      rfl
  | ifE c w ih =>
      have hw : w.width = 0 := h
      simp only [Ex.update, Ex.argVal, Ex.argUpd]
      split
      · rw [ih hw cs, ih hw []]
      · rw [width0_get x hw cs]
        simp [hw]
  | bounded w lo hi ih =>
      simp only [Ex.update, Ex.argVal, Ex.argUpd]
      rw [ih h cs, ih h []]
      simp only
      split <;> rfl
  | shift w off ih => exact ih h cs
  | unary f w ih => exact ih h cs

theorem leafArg_update (x : Ext) {w : Ex} (h : w.isLeafArg = true) (cs : List Cell) (p : Pt) :
    w.update x cs p = ([], cs, w.argVal x p, w.argUpd x p) :=
  width0_update x (leafArg_width h) cs p

/-- structural induction with what `Ex.valid` and `Ex.noPtile` say at each node: about the node
    itself and, where that is not the same thing, about its parts -/
theorem Ex.valid_induction {P : Ex → Prop}
    (field : ∀ n, P (.field n)) (const : ∀ v, P (.const v))
    (agg : ∀ k w, w.isLeafArg = true → w.noPtile = true → P (.agg k w))
    (avg : ∀ v w, (Ex.avg v w).valid = true → (Ex.avg v w).noPtile = true →
      v.isLeafArg = true → w.width = 0 → P (.avg v w))
    (bin : ∀ op l r, (Ex.bin op l r).valid = true → (Ex.bin op l r).noPtile = true →
      l.valid = true → l.noPtile = true → r.valid = true → r.noPtile = true → P l → P r → P (.bin op l r))
    (ifE : ∀ c w, w.valid = true → w.noPtile = true → P w → P (.ifE c w))
    (bounded : ∀ w lo hi, w.valid = true → w.noPtile = true → P w → P (.bounded w lo hi))
    (shift : ∀ w off, w.valid = true → w.noPtile = true → P w → P (.shift w off))
    (unary : ∀ f w, w.valid = true → w.noPtile = true → P w → P (.unary f w)) :
    ∀ e : Ex, e.valid = true → e.noPtile = true → P e := by
  intro e
  induction e with
  | field n => exact fun _ _ => field n
  | const v => exact fun _ _ => const v
  | agg k w _ => exact agg k w
  | avg v w _ _ =>
      intro hv hp
      have hv' := hv
      simp only [Ex.valid, Bool.and_eq_true, beq_iff_eq] at hv'
      exact avg v w hv hp hv'.1 hv'.2
  | bin op l r ihl ihr =>
      intro hv hp
      have hv' := hv
      have hp' := hp
      simp only [Ex.valid, Ex.noPtile, Bool.and_eq_true] at hv' hp'
      exact bin op l r hv hp hv'.1 hp'.1 hv'.2 hp'.2 (ihl hv'.1 hp'.1) (ihr hv'.2 hp'.2)
  | ifE c w ih => exact fun hv hp => ifE c w hv hp (ih hv hp)
  | bounded w lo hi ih => exact fun hv hp => bounded w lo hi hv hp (ih hv hp)
  | shift w off ih => exact fun hv hp => shift w off hv hp (ih hv hp)
  | unary f w ih => exact fun hv hp => unary f w hv hp (ih hv hp)
  | ptile _ _ _ _ _ _ => exact fun _ hp => nomatch hp

theorem map_kind_singleton {cs : List Cell} {k : CK} (h : cs.map Cell.kind = [k]) :
    ∃ c, cs = [c] ∧ c.kind = k := by
  match cs, h with
  | [c], h => exact ⟨c, rfl, by simpa using h⟩

theorem wf_agg_inv {k : AggKind} {w : Ex} (hw : w.isLeafArg = true) {cs : List Cell}
    (h : WF (.agg k w) cs) : ∃ v, cs = [.agg v] := by
  unfold WF at h
  simp only [Ex.shape, leafArg_shape hw] at h
  obtain ⟨c, rfl, hc⟩ := map_kind_singleton h
  cases c with
  | agg v => exact ⟨v, rfl⟩
  | avg v => simp [Cell.kind] at hc
  | hist v => simp [Cell.kind] at hc

theorem wf_avg_inv {v w : Ex} (hv : v.isLeafArg = true) {cs : List Cell}
    (h : WF (.avg v w) cs) : ∃ c, cs = [.avg c] := by
  unfold WF at h
  simp only [Ex.shape, leafArg_shape hv] at h
  obtain ⟨c, rfl, hc⟩ := map_kind_singleton h
  cases c with
  | avg v => exact ⟨v, rfl⟩
  | agg v => simp [Cell.kind] at hc
  | hist v => simp [Cell.kind] at hc

theorem wf_agg_cell {k : AggKind} {w : Ex} (hw : w.isLeafArg = true) (v : Option Rat) : WF (.agg k w) [.agg v] := by
  simp [WF, Ex.shape, leafArg_shape hw, Cell.kind]

theorem wf_avg_cell {v w : Ex} (hv : v.isLeafArg = true) (c : Option (Rat × Rat)) : WF (.avg v w) [.avg c] := by
  simp [WF, Ex.shape, leafArg_shape hv, Cell.kind]

theorem wf_bin {op : BinOp} {l r : Ex} {cl cr : List Cell} (hl : WF l cl) (hr : WF r cr) :
    WF (.bin op l r) (cl ++ cr) := by
  unfold WF at *
  simp [Ex.shape, hl, hr]

theorem get_append (x : Ext) : ∀ {e : Ex}, e.valid = true → e.noPtile = true →
    ∀ {c1 : List Cell}, WF e c1 → ∃ V S, ∀ rest, e.get x (c1 ++ rest) = (V, S, rest) := by
  intro e
  apply Ex.valid_induction (P := fun e => ∀ {c1 : List Cell}, WF e c1 → ∃ V S, ∀ rest, e.get x (c1 ++ rest) = (V, S, rest))
  case field =>
    intro n c1 hw
    rw [wf_nil_of_shape_nil rfl hw]
    exact ⟨0, false, fun rest => rfl⟩
  case const =>
    intro v c1 hw
    rw [wf_nil_of_shape_nil rfl hw]
    exact ⟨v, true, fun rest => rfl⟩
  case agg =>
    intro k w hl _ c1 hw
    obtain ⟨v, rfl⟩ := wf_agg_inv hl hw
    cases v with
    | none => exact ⟨0, false, fun rest => by simp [Ex.get, leafArg_width hl]⟩
    | some v => exact ⟨v, true, fun rest => by simp [Ex.get, leafArg_width hl]⟩
  case avg =>
    intro v w _ _ hl _ c1 hw
    obtain ⟨c, rfl⟩ := wf_avg_inv hl hw
    cases c with
    | none => exact ⟨0, false, fun rest => by simp [Ex.get, leafArg_width hl]⟩
    | some ct => exact ⟨calcAvg ct.1 ct.2, true, fun rest => by simp [Ex.get, leafArg_width hl]⟩
  case bin =>
    intro op l r _ _ _ _ _ _ ihl ihr c1 hw
    obtain ⟨cl, cr, rfl, hwl, hwr⟩ := wf_split hw
    obtain ⟨Vl, Sl, hl⟩ := ihl hwl
    obtain ⟨Vr, Sr, hr⟩ := ihr hwr
    refine ⟨if !Sl && !Sr then 0 else binCalc op Vl Vr, if !Sl && !Sr then false else true, fun rest => ?_⟩
    simp only [Ex.get, List.append_assoc, hl, hr]
    cases Sl <;> cases Sr <;> rfl
  case ifE => exact fun c w _ _ ih => ih
  case bounded =>
    intro w lo hi _ _ ih c1 hw
    obtain ⟨V, S, h⟩ := ih hw
    refine ⟨if !S || !(bounded_test lo hi V) then 0 else V, if !S || !(bounded_test lo hi V) then false else S, fun rest => ?_⟩
    simp only [Ex.get, h]
    generalize bounded_test lo hi V = b
    cases S <;> cases b <;> rfl
  case shift => exact fun w off _ _ ih => ih
  case unary =>
    intro f w _ _ ih c1 hw
    obtain ⟨V, S, h⟩ := ih hw
    exact ⟨if S then x.unaryFn f V else V, S, fun rest => by simp [Ex.get, h]⟩

theorem update_append (x : Ext) (p : Pt) : ∀ {e : Ex}, e.valid = true → e.noPtile = true →
    ∀ {c1 : List Cell}, WF e c1 →
    ∃ A V U, WF e A ∧ ∀ rest, e.update x (c1 ++ rest) p = (A, rest, V, U) := by
  intro e
  apply Ex.valid_induction (P := fun e => ∀ {c1 : List Cell}, WF e c1 →
    ∃ A V U, WF e A ∧ ∀ rest, e.update x (c1 ++ rest) p = (A, rest, V, U))
  case field =>
    intro n c1 hw
    rw [wf_nil_of_shape_nil rfl hw]
    cases hg : p.get n with
    | none => exact ⟨[], 0, false, rfl, fun rest => by simp [Ex.update, hg]⟩
    | some v => exact ⟨[], v, true, rfl, fun rest => by simp [Ex.update, hg]⟩
  case const =>
    intro v c1 hw
    rw [wf_nil_of_shape_nil rfl hw]
    exact ⟨[], v, false, rfl, fun rest => rfl⟩
  case agg =>
    intro k w hl _ c1 hw
    obtain ⟨v, rfl⟩ := wf_agg_inv hl hw
    cases hu : w.argUpd x p with
    | false =>
        refine ⟨[.agg v], (match v with | some v => v | none => 0), false, hw, fun rest => ?_⟩
        cases v <;> simp [Ex.update, leafArg_update x hl, hu]
    | true =>
        refine ⟨[.agg (some (aggUpdate k v.isSome (v.getD 0) (w.argVal x p)))], aggUpdate k v.isSome (v.getD 0) (w.argVal x p), true,
          wf_agg_cell hl _, fun rest => ?_⟩
        cases v <;> simp [Ex.update, leafArg_update x hl, hu]
  case avg =>
    intro v w _ _ hl hw0 c1 hw
    obtain ⟨c, rfl⟩ := wf_avg_inv hl hw
    cases hu : v.argUpd x p with
    | false =>
        refine ⟨[.avg c], (match c with | some ct => calcAvg ct.1 ct.2 | none => calcAvg 0 0), false, hw, fun rest => ?_⟩
        cases c <;> simp [Ex.update, leafArg_update x hl, width0_update x hw0, hu] <;> rfl
    | true =>
        refine ⟨[.avg (some ((c.getD (0, 0)).1 + w.argVal x p, (c.getD (0, 0)).2 + v.argVal x p * w.argVal x p))],
          calcAvg ((c.getD (0, 0)).1 + w.argVal x p) ((c.getD (0, 0)).2 + v.argVal x p * w.argVal x p), true,
          wf_avg_cell hl _, fun rest => ?_⟩
        cases c <;> simp [Ex.update, leafArg_update x hl, width0_update x hw0, hu]
  case bin =>
    intro op l r _ _ _ _ _ _ ihl ihr c1 hw
    obtain ⟨cl, cr, rfl, hwl, hwr⟩ := wf_split hw
    obtain ⟨Al, Vl, Ul, hal, hl⟩ := ihl hwl
    obtain ⟨Ar, Vr, Ur, har, hr⟩ := ihr hwr
    exact ⟨Al ++ Ar, binCalc op Vl Vr, Ul || Ur, wf_bin hal har, fun rest => by simp [Ex.update, List.append_assoc, hl, hr]⟩
  case ifE =>
    intro c w hv hp ih c1 hw
    cases hi : p.includes c with
    | true =>
        obtain ⟨A, V, U, ha, h⟩ := ih hw
        exact ⟨A, V, U, ha, fun rest => by simp [Ex.update, hi, h]⟩
    | false =>
        obtain ⟨V, S, h⟩ := get_append x hv hp hw
        exact ⟨c1, V, false, hw, fun rest => by simp [Ex.update, hi, h, ← WF.length (e := w) hw]⟩
  case bounded =>
    intro w lo hi _ _ ih c1 hw
    obtain ⟨A, V, U, ha, h⟩ := ih hw
    refine ⟨A, if !(bounded_test lo hi V) then 0 else V, if !(bounded_test lo hi V) then false else U, ha, fun rest => ?_⟩
    simp only [Ex.update, h]
    cases bounded_test lo hi V <;> rfl
  case shift => exact fun w off _ _ ih => ih
  case unary => exact fun f w _ _ ih => ih

theorem merge_append : ∀ {e : Ex}, e.valid = true → e.noPtile = true →
    ∀ {x1 y1 : List Cell}, WF e x1 → WF e y1 →
    ∃ A, WF e A ∧ ∀ xr yr, e.merge (x1 ++ xr) (y1 ++ yr) = (A, xr, yr) := by
  intro e
  apply Ex.valid_induction (P := fun e => ∀ {x1 y1 : List Cell}, WF e x1 → WF e y1 →
    ∃ A, WF e A ∧ ∀ xr yr, e.merge (x1 ++ xr) (y1 ++ yr) = (A, xr, yr))
  case field =>
    intro n x1 y1 hx hy
    rw [wf_nil_of_shape_nil rfl hx, wf_nil_of_shape_nil rfl hy]
    exact ⟨[], rfl, fun xr yr => rfl⟩
  case const =>
    intro v x1 y1 hx hy
    rw [wf_nil_of_shape_nil rfl hx, wf_nil_of_shape_nil rfl hy]
    exact ⟨[], rfl, fun xr yr => rfl⟩
  case agg =>
    intro k w hl _ x1 y1 hx hy
    obtain ⟨a, rfl⟩ := wf_agg_inv hl hx
    obtain ⟨b, rfl⟩ := wf_agg_inv hl hy
    exact ⟨_, wf_agg_cell hl (mergeOpt (aggMerge k true) a b), fun xr yr => by simp [Ex.merge]⟩
  case avg =>
    intro v w _ _ hl _ x1 y1 hx hy
    obtain ⟨a, rfl⟩ := wf_avg_inv hl hx
    obtain ⟨b, rfl⟩ := wf_avg_inv hl hy
    exact ⟨_, wf_avg_cell hl (mergeOpt (fun a b => (a.1 + b.1, a.2 + b.2)) a b), fun xr yr => by simp [Ex.merge]⟩
  case bin =>
    intro op l r _ _ _ _ _ _ ihl ihr x1 y1 hx hy
    obtain ⟨xl, xr', rfl, hxl, hxr⟩ := wf_split hx
    obtain ⟨yl, yr', rfl, hyl, hyr⟩ := wf_split hy
    obtain ⟨Al, hal, hl⟩ := ihl hxl hyl
    obtain ⟨Ar, har, hr⟩ := ihr hxr hyr
    exact ⟨Al ++ Ar, wf_bin hal har, fun xr yr => by simp [Ex.merge, List.append_assoc, hl, hr]⟩
  case ifE => exact fun c w _ _ ih => ih
  case bounded => exact fun w lo hi _ _ ih => ih
  case shift => exact fun w off _ _ ih => ih
  case unary => exact fun f w _ _ ih => ih

variable (x : Ext)

theorem update_eq {e : Ex} (hv : e.valid = true) (hp : e.noPtile = true) {c1 : List Cell}
    (hw : WF e c1) (p : Pt) (rest : List Cell) :
    e.update x (c1 ++ rest) p =
      (e.upd x c1 p, rest, (e.update x c1 p).2.2.1, (e.update x c1 p).2.2.2) := by
  obtain ⟨A, V, U, _, h⟩ := update_append x p hv hp hw
  have h0 := h []
  rw [List.append_nil] at h0
  simp [Ex.upd, h rest, h0]

theorem upd_wf {e : Ex} (hv : e.valid = true) (hp : e.noPtile = true) {c1 : List Cell}
    (hw : WF e c1) (p : Pt) : WF e (e.upd x c1 p) := by
  obtain ⟨A, V, U, ha, h⟩ := update_append x p hv hp hw
  have h0 := h []
  rw [List.append_nil] at h0
  simpa [Ex.upd, h0] using ha

theorem merge_eq {e : Ex} (hv : e.valid = true) (hp : e.noPtile = true) {x1 y1 : List Cell}
    (hx : WF e x1) (hy : WF e y1) (xr yr : List Cell) :
    e.merge (x1 ++ xr) (y1 ++ yr) = (e.mrg x1 y1, xr, yr) := by
  obtain ⟨A, _, h⟩ := merge_append hv hp hx hy
  have h0 := h [] []
  simp only [List.append_nil] at h0
  simp [Ex.mrg, h xr yr, h0]

theorem mrg_wf {e : Ex} (hv : e.valid = true) (hp : e.noPtile = true) {x1 y1 : List Cell}
    (hx : WF e x1) (hy : WF e y1) : WF e (e.mrg x1 y1) := by
  obtain ⟨A, ha, h⟩ := merge_append hv hp hx hy
  have h0 := h [] []
  simp only [List.append_nil] at h0
  simpa [Ex.mrg, h0] using ha

theorem upd_bin {op : BinOp} {l r : Ex} (hvl : l.valid = true) (hpl : l.noPtile = true)
    {cl cr : List Cell} (hl : WF l cl) (p : Pt) :
    (Ex.bin op l r).upd x (cl ++ cr) p = l.upd x cl p ++ r.upd x cr p := by
  simp [Ex.upd, Ex.update, update_eq x hvl hpl hl p cr]

theorem mrg_bin {op : BinOp} {l r : Ex} (hvl : l.valid = true) (hpl : l.noPtile = true)
    {xl xr yl yr : List Cell} (hx : WF l xl) (hy : WF l yl) :
    (Ex.bin op l r).mrg (xl ++ xr) (yl ++ yr) = l.mrg xl yl ++ r.mrg xr yr := by
  simp [Ex.mrg, Ex.merge, merge_eq hvl hpl hx hy xr yr]

end Zeno
