/-
Derived selected expressions: assembling the columns' accumulations of a list of points =
accumulating the points directly with the derived expression, the row's IF conditions appended to
every point (which is what `specQuery` does).  `Ex.resolved`, `Ex.openConds`, `ColsIgnore` are the
hypotheses of that equation.
-/
import ZenoModel.Lemmas.DerivedMatch
import ZenoModel.Lemmas.SubMergeSemSpec
namespace Zeno

/-- a point with the IF conditions of its source row's key appended -/
def addConds (cs : List Nat) (pt : Pt) : Pt := { pt with conds := pt.conds ++ cs }

/-- every aggregate of `e` lies in a sub-expression that resolves to a column, and that column's
    expression is the sub-expression (not merely printed alike: AVG prints without its weight) -/
def Ex.resolved (subs : List Ex) : Ex → Bool
  | .field _ => true
  | .const _ => true
  | .agg k w => match (Ex.agg k w).matchIdx subs with
      | some i => subs[i]? == some (Ex.agg k w)
      | none => false
  | .avg v w => match (Ex.avg v w).matchIdx subs with
      | some i => subs[i]? == some (Ex.avg v w)
      | none => false
  | .bin op l r => match (Ex.bin op l r).matchIdx subs with
      | some i => subs[i]? == some (Ex.bin op l r)
      | none => l.resolved subs && r.resolved subs
  | .ifE c w => match (Ex.ifE c w).matchIdx subs with
      | some i => subs[i]? == some (Ex.ifE c w)
      | none => w.resolved subs
  | .bounded w lo hi => match (Ex.bounded w lo hi).matchIdx subs with
      | some i => subs[i]? == some (Ex.bounded w lo hi)
      | none => w.resolved subs
  | .unary u w => match (Ex.unary u w).matchIdx subs with
      | some i => subs[i]? == some (Ex.unary u w)
      | none => w.resolved subs
  | .shift _ _ => false
  | .ptile _ _ _ _ => false

/-- the IF conditions of `e` that are evaluated on the source row's key by the sub-mergers: those of
    the IF nodes that do not resolve to a column -/
def Ex.openConds (subs : List Ex) : Ex → List Nat
  | .bin op l r => match (Ex.bin op l r).matchIdx subs with
      | some _ => []
      | none => l.openConds subs ++ r.openConds subs
  | .ifE c w => match (Ex.ifE c w).matchIdx subs with
      | some _ => []
      | none => c :: w.openConds subs
  | .bounded w lo hi => match (Ex.bounded w lo hi).matchIdx subs with
      | some _ => []
      | none => w.openConds subs
  | .unary u w => match (Ex.unary u w).matchIdx subs with
      | some _ => []
      | none => w.openConds subs
  | _ => []

section
variable (x : Ext)

theorem acc_width0 {e : Ex} (hv : e.valid = true) (hp : e.noPtile = true) (h : e.shape = []) (ps : List Pt) :
    e.acc x ps = [] := wf_nil_of_shape_nil h (acc_wf x hv hp ps)

theorem acc_bin {op : BinOp} {l r : Ex} (hvl : l.valid = true) (hpl : l.noPtile = true) (ps : List Pt) :
    (Ex.bin op l r).acc x ps = l.acc x ps ++ r.acc x ps :=
  foldl_append_split (WF l) _ _ _ (fun _ _ p hcl => ⟨upd_bin x hvl hpl hcl p, upd_wf x hvl hpl hcl p⟩) ps
    l.empty r.empty (wf_empty l)

theorem acc_ifE_all (c : Nat) (w : Ex) (ps : List Pt) (h : ∀ pt ∈ ps, pt.includes c = true) :
    (Ex.ifE c w).acc x ps = w.acc x ps := by
  apply foldl_congr_mem
  intro a pt hpt
  simp [Ex.upd, Ex.update, h pt hpt]

theorem acc_ifE_none (c : Nat) (w : Ex) (ps : List Pt) (h : ∀ pt ∈ ps, pt.includes c = false) :
    (Ex.ifE c w).acc x ps = w.empty := by
  apply foldl_fixed
  intro pt hpt
  simp only [Ex.upd, Ex.update, h pt hpt, Bool.false_eq_true, if_false]
  rw [← (wf_empty w).length]
  exact List.take_length

theorem acc_bounded (w : Ex) (lo hi : Rat) (ps : List Pt) : (Ex.bounded w lo hi).acc x ps = w.acc x ps := by
  apply foldl_congr_mem
  intro a pt _
  simp only [Ex.upd, Ex.update]
  split <;> rfl

theorem acc_unary (f : Nat) (w : Ex) (ps : List Pt) : (Ex.unary f w).acc x ps = w.acc x ps := rfl

theorem includes_addConds (cs : List Nat) (pt : Pt) (c : Nat) :
    (addConds cs pt).includes c = (pt.includes c || cs.contains c) := by
  simp [addConds, Pt.includes, Bool.or_assoc]

end

/-- the scanned columns do not read the key-level IF conditions `cs` (true for columns without IF,
    and for any column when `cs = []`) -/
def ColsIgnore (x : Ext) (subs : List Ex) (cs : List Nat) : Prop :=
  ∀ (i : Nat) (c : Ex), subs[i]? = some c → ∀ l : List Pt, c.acc x (l.map (addConds cs)) = c.acc x l

/-- the columns' accumulations of the points `ps` -/
def colAccs (x : Ext) (subs : List Ex) (ps : List Pt) : Nat → List Cell :=
  fun j => (subs.getD j (.const 0)).acc x ps

theorem colAccs_of_getElem? (x : Ext) {subs : List Ex} {j : Nat} {cj : Ex} (hj : subs[j]? = some cj) (ps : List Pt) :
    colAccs x subs ps j = cj.acc x ps := by
  rw [colAccs, getD_of_getElem? hj]

/-- the statement of `assemble_acc` for one expression -/
def AsmAcc (x : Ext) (subs : List Ex) (p : Pt) (ps : List Pt) (e : Ex) : Prop :=
  e.resolved subs = true → (∀ c ∈ e.openConds subs, ∀ pt ∈ ps, pt.includes c = false) →
    e.assemble subs p (colAccs x subs ps) = e.acc x (ps.map (addConds p.conds))

section
variable (x : Ext) {subs : List Ex} {p : Pt} {ps : List Pt} (hp0 : p.noMeta = false)
  (hirr : ColsIgnore x subs p.conds)
include hirr

theorem asmAcc_some {n : Ex} {i : Nat} (hasm : ∀ st, n.assemble subs p st = st i)
    (hres : n.resolved subs = (subs[i]? == some n)) : AsmAcc x subs p ps n := by
  intro hr _
  have hs : subs[i]? = some n := by simpa [hres] using hr
  rw [hasm, colAccs_of_getElem? x hs]
  exact (hirr i n hs ps).symm

theorem asmAcc_leaf (n : Ex)
    (hasm : ∀ st, n.assemble subs p st = match n.matchIdx subs with | some i => st i | none => n.empty)
    (hres : n.resolved subs = match n.matchIdx subs with | some i => subs[i]? == some n | none => false) :
    AsmAcc x subs p ps n := by
  cases hm : n.matchIdx subs with
  | none => exact fun hr => by rw [hres, hm] at hr; cases hr
  | some i => exact asmAcc_some x hirr (i := i) (fun st => by rw [hasm, hm]) (by rw [hres, hm])

theorem asmAcc_bin (op : BinOp) (l r : Ex) (hvl : l.valid = true) (hpl : l.noPtile = true)
    (ihl : AsmAcc x subs p ps l) (ihr : AsmAcc x subs p ps r) : AsmAcc x subs p ps (.bin op l r) := by
  cases hm : (Ex.bin op l r).matchIdx subs with
  | some i => exact asmAcc_some x hirr (i := i) (fun st => by simp only [Ex.assemble, hm]) (by simp only [Ex.resolved, hm])
  | none =>
    intro hr hf
    simp only [Ex.resolved, hm, Bool.and_eq_true] at hr
    simp only [Ex.openConds, hm, List.mem_append] at hf
    simp only [Ex.assemble, hm]
    rw [ihl hr.1 (fun c hc => hf c (Or.inl hc)), ihr hr.2 (fun c hc => hf c (Or.inr hc)), acc_bin x hvl hpl]

include hp0 in
theorem asmAcc_ifE (c : Nat) (w : Ex) (ih : AsmAcc x subs p ps w) : AsmAcc x subs p ps (.ifE c w) := by
  cases hm : (Ex.ifE c w).matchIdx subs with
  | some i => exact asmAcc_some x hirr (i := i) (fun st => by simp only [Ex.assemble, hm]) (by simp only [Ex.resolved, hm])
  | none =>
    intro hr hf
    simp only [Ex.resolved, hm] at hr
    simp only [Ex.openConds, hm, List.mem_cons] at hf
    simp only [Ex.assemble, hm]
    -- a point without metadata (`noMeta`) passes every IF: gating by the key's conditions needs `hp0`
    have hpc : p.includes c = p.conds.contains c := by simp [Pt.includes, hp0]
    by_cases hc : p.includes c = true
    · rw [if_pos hc, ih hr (fun c' hc' => hf c' (Or.inr hc')), acc_ifE_all]
      intro pt hpt
      obtain ⟨pt0, _, rfl⟩ := List.mem_map.mp hpt
      rw [includes_addConds, ← hpc, hc, Bool.or_true]
    · rw [if_neg hc, acc_ifE_none]
      intro pt hpt
      obtain ⟨pt0, hpt0, rfl⟩ := List.mem_map.mp hpt
      rw [includes_addConds, ← hpc, hf c (Or.inl rfl) pt0 hpt0]
      simpa using hc

theorem asmAcc_bounded (w : Ex) (lo hi : Rat) (ih : AsmAcc x subs p ps w) :
    AsmAcc x subs p ps (.bounded w lo hi) := by
  cases hm : (Ex.bounded w lo hi).matchIdx subs with
  | some i => exact asmAcc_some x hirr (i := i) (fun st => by simp only [Ex.assemble, hm]) (by simp only [Ex.resolved, hm])
  | none =>
    intro hr hf
    simp only [Ex.resolved, hm] at hr
    simp only [Ex.openConds, hm] at hf
    simp only [Ex.assemble, hm]
    rw [ih hr hf, acc_bounded]

theorem asmAcc_unary (u : Nat) (w : Ex) (ih : AsmAcc x subs p ps w) :
    AsmAcc x subs p ps (.unary u w) := by
  cases hm : (Ex.unary u w).matchIdx subs with
  | some i => exact asmAcc_some x hirr (i := i) (fun st => by simp only [Ex.assemble, hm]) (by simp only [Ex.resolved, hm])
  | none =>
    intro hr hf
    simp only [Ex.resolved, hm] at hr
    simp only [Ex.openConds, hm] at hf
    simp only [Ex.assemble, hm]
    rw [ih hr hf, acc_unary]

include hp0 in
theorem assemble_acc : ∀ (e : Ex), e.valid = true → e.noPtile = true → AsmAcc x subs p ps e := by
  intro e
  induction e with
  | field n | const v => exact fun _ _ _ _ => (acc_width0 x rfl rfl rfl _).symm
  | agg k w | avg v w => exact fun _ _ => asmAcc_leaf x hirr _ (fun _ => rfl) rfl
  | bin op l r ihl ihr =>
    intro hv hp
    have hv' := Bool.and_eq_true_iff.mp hv
    have hp' := Bool.and_eq_true_iff.mp hp
    exact asmAcc_bin x hirr op l r hv'.1 hp'.1 (ihl hv'.1 hp'.1) (ihr hv'.2 hp'.2)
  | ifE c w ih => exact fun hv hp => asmAcc_ifE x hp0 hirr c w (ih hv hp)
  | bounded w lo hi ih => exact fun hv hp => asmAcc_bounded x hirr w lo hi (ih hv hp)
  | unary u w ih => exact fun hv hp => asmAcc_unary x hirr u w (ih hv hp)
  | shift w off => exact fun _ _ hr => Bool.noConfusion hr
  | ptile id v pe n => exact fun _ hp => Bool.noConfusion hp

end

theorem colsIgnore_of_noIf (x : Ext) (subs : List Ex) (h : ∀ c ∈ subs, c.noIf = true) (cs : List Nat) :
    ColsIgnore x subs cs := by
  intro i c hc l
  have := acc_map_congr_conds x (h c (List.mem_of_getElem? hc)) (addConds cs) (fun pt : Pt => pt)
    (fun _ => ⟨rfl, rfl⟩) l
  simpa using this

theorem colsIgnore_nil (x : Ext) (subs : List Ex) : ColsIgnore x subs [] := by
  intro i c _ l
  have : addConds [] = id := funext fun pt => by simp [addConds]
  rw [this, List.map_id]

end Zeno
