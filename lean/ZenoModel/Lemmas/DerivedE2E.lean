/-
Derived selected expressions, end to end: the cell `core.Group` computes for a derived selected
expression over the scan of `runStore x cfg ops` = the expression accumulated over `specQuery`'s
bucket of accepted raw rows (key conditions appended).  The store half is per scanned column: every
scanned column of every scan row is a stored sequence on the table grid whose state at a live
period is the column's accumulation of the accepted raw rows; a key without a scan row only has
empty states.  With that cell theorem the store-free read-out (`ReadOut`) applies.
-/
import ZenoModel.Lemmas.DerivedSpec
import ZenoModel.Lemmas.EndToEndCell
namespace Zeno

/-- every table field is accepted by `Validate()` and has no PERCENTILE -/
def TableExprsOk (cfg : TableCfg) : Prop := ∀ g ∈ cfg.fields, g.ex.valid = true ∧ g.ex.noPtile = true

/-- store script, query and plan for derived selected expressions: the end-to-end context plus
    well-formed table expressions that do not read the key-level IF conditions of the query -/
structure DerivedCtx (x : Ext) (cfg : TableCfg) (ops : List StoreOp) (q : Query) (metas : List KeyMeta) (pl : Plan) :
    Prop where
  base : E2ECtx x cfg ops q metas pl
  tableOk : TableExprsOk cfg
  colsIgnore : ∀ κ : Key, ColsIgnore x ((includedFields cfg q).map (·.ex)) (specMetaOf metas κ).conds

/-- a derived selected field: built over scanned table fields -/
structure DerivedField (x : Ext) (cfg : TableCfg) (ops : List StoreOp) (q : Query) (f : Field) : Prop where
  valid : f.ex.valid = true
  noPtile : f.ex.noPtile = true
  shiftFree : f.ex.shiftFree = true
  /-- every aggregate of `f` lies in a sub-expression that is a scanned table field -/
  resolved : f.ex.resolved ((includedFields cfg q).map (·.ex)) = true
  /-- the query-level IF conditions are not among the conditions evaluated on the points themselves
      (ids ≥ 100 vs < 100 in the harness) -/
  fresh : ∀ c ∈ f.ex.openConds ((includedFields cfg q).map (·.ex)),
    ∀ a ∈ (acceptedRows cfg true (pointsOf ops)).1, a.pt.includes c = false

/-- `specQuery`'s points of the bucket `(k, T)` for the script -/
def e2eBucket (x : Ext) (cfg : TableCfg) (ops : List StoreOp) (q : Query) (metas : List KeyMeta) (pl : Plan)
    (k : Key) (T : Int) : List Pt :=
  specBucketPts q (specRows q metas (acceptedRows cfg true (pointsOf ops)).1) (specAdj metas)
    (gAsOfOf cfg (runStore x cfg ops).now pl) (gUntilOf cfg (runStore x cfg ops).now pl) (gResOf cfg pl) k T

theorem derived_group_empty (x : Ext) {e : Ex} (hv : e.valid = true) (hp : e.noPtile = true) {subs : List Ex}
    (hres : e.resolved subs = true) (metas : List KeyMeta) (A : List AccRow) (κ : Key) (t : Int)
    (hirr : ColsIgnore x subs (specMetaOf metas κ).conds)
    (hfresh : ∀ c ∈ e.openConds subs, ∀ a ∈ A, a.pt.includes c = false)
    (hcols : ∀ (j : Nat) (cj : Ex), subs[j]? = some cj → cj.acc x (keyPeriodPts A (·.pt) κ t) = cj.empty) :
    e.acc x (keyPeriodPts A (specAdj metas) κ t) = e.empty := by
  -- a scan row without columns reads the empty state in every column
  rw [← rowState_points x hv hp hres metas A { key := κ, cols := [] } 0 t hirr hfresh
    (fun j cj hj => (hcols j cj hj).symm)]
  exact assemble_empties subs _ e

section
variable (x : Ext) {cfg : TableCfg} {ops : List StoreOp} {q : Query} {metas : List KeyMeta} {pl : Plan}
  (C : DerivedCtx x cfg ops q metas pl)
include C

theorem scanned_col {j : Nat} {cj : Ex} (hj : ((includedFields cfg q).map (·.ex))[j]? = some cj) :
    ∃ ti, ∃ hti : ti < cfg.fields.length, (cfg.fields[ti]).ex = cj ∧
      (cfg.fields[ti]).ex.valid = true ∧ (cfg.fields[ti]).ex.noPtile = true ∧
      ScanView cfg (runStore x cfg ops) ti j ((runStore x cfg ops).iterate cfg (includedFields cfg q) true).rows := by
  rw [List.getElem?_map] at hj
  cases hin : (includedFields cfg q)[j]? with
  | none => rw [hin] at hj; cases hj
  | some inF =>
    rw [hin] at hj
    obtain ⟨ti, hti, rfl⟩ := includedFields_index cfg q j inF hin
    obtain ⟨hv, hp⟩ := C.tableOk _ (List.getElem_mem hti)
    exact ⟨ti, hti, Option.some.inj hj, hv, hp, scanView_included cfg C.base.wf.distinct _
      (storeInv_run x cfg C.base.wf.res_pos ops C.base.pos) q j ti hti hin⟩

theorem scan_rowColsOk :
    ∀ r ∈ e2eScan x cfg ops q metas, RowColsOk ((includedFields cfg q).map (·.ex)) cfg.res r.cols := by
  intro r hr
  have hr0 := ((mem_whereRows q metas _ r).mp hr).1
  have hcol : ∀ j cj, ((includedFields cfg q).map (·.ex))[j]? = some cj →
      j < r.cols.length ∧ SqOk cfg.res (r.cols.getD j none) ∧ SqWF cj (r.cols.getD j none) := by
    intro j cj hj
    obtain ⟨ti, hti, rfl, hv, hp, sv⟩ := scanned_col x C hj
    rw [sv.col r hr0]
    exact ⟨sv.width r hr0, scanCol_ok x cfg C.base.wf ops C.base.pos r.key ti hti hv hp⟩
  exact ⟨Nat.le_of_not_lt fun h => Nat.lt_irrefl _ (hcol _ _ (List.getElem?_eq_getElem h)).1,
    fun j cj hj => (hcol j cj hj).2⟩

theorem derivedCell_of_store (i : Nat) (f : Field) (hout : q.outFields[i]? = some f)
    (df : DerivedField x cfg ops q f) :
    DerivedCell cfg (runStore x cfg ops).now q pl (includedFields cfg q) (e2eScan x cfg ops q metas)
      (gResOf cfg pl / cfg.res).toNat i f :=
  ⟨planLocal_noStride cfg _ q pl C.base.plan C.base.noStride, C.base.window, hout, df.valid, df.noPtile,
    df.shiftFree, scan_rowColsOk x C⟩

theorem e2eBucket_outside (k : Key) (T : Int)
    (hW : ¬ (gAsOfOf cfg (runStore x cfg ops).now pl < T ∧ T ≤ gUntilOf cfg (runStore x cfg ops).now pl)) :
    e2eBucket x cfg ops q metas pl k T = [] :=
  specBucketPts_outside q _ _ C.base.resPos k T hW

/-- the cell at any out-grid time is the expression accumulated over the spec's bucket (which is
    empty outside the window) -/
theorem derived_cell_at (i : Nat) (f : Field) (hout : q.outFields[i]? = some f) (df : DerivedField x cfg ops q f)
    (k : Key) (T : Int) (hT : (gUntilOf cfg (runStore x cfg ops).now pl - T) % gResOf cfg pl = 0) :
    (groupCell cfg (runStore x cfg ops).now q pl (includedFields cfg q) metas (e2eScan x cfg ops q metas) k i).at
        f.ex (gResOf cfg pl) T = f.ex.acc x (e2eBucket x cfg ops q metas pl k T) := by
  have H := derivedCell_of_store x C i f hout df
  have hspecmem : ∀ a ∈ specRows q metas (acceptedRows cfg true (pointsOf ops)).1,
      a ∈ (acceptedRows cfg true (pointsOf ops)).1 := fun a ha => ((mem_specRows q metas _ a).mp ha).1
  by_cases hW : gAsOfOf cfg (runStore x cfg ops).now pl < T ∧ T ≤ gUntilOf cfg (runStore x cfg ops).now pl
  · rw [sem_groupRows_derived_spec_lem x H metas df.resolved k T hT hW
      ((specRows q metas (acceptedRows cfg true (pointsOf ops)).1).filter (hasRow (e2eScan x cfg ops q metas)))
      ?hper ?hkeys (fun a ha _ => hasRow_iff.mp (List.mem_filter.mp ha).2) (fun r _ => rowPt_conds metas r ▸ C.colsIgnore r.key) ?hfresh
      ?hstore]
    · refine (specBucket_drop_uncovered x df.valid df.noPtile q _ (specAdj metas) _ _ _ k T
        (hasRow (e2eScan x cfg ops q metas)) (hasRow_key _) ?_).symm
      intro a ha hwin hbad
      refine derived_group_empty x df.valid df.noPtile df.resolved metas _ a.key a.period (C.colsIgnore a.key)
        (fun c hc a' ha' => df.fresh c hc a' (hspecmem a' ha')) (fun j cj hj => ?_)
      obtain ⟨ti, hti, rfl, hv, hp, sv⟩ := scanned_col x C hj
      exact uncovered_empty_of_scanView sv q metas x (C.base.scan_live ti hti hv hp) C.base.metasCover a ha hwin hbad
    case hper =>
      exact fun a ha => acceptedRows_period cfg C.base.wf.res_pos true _ a (hspecmem a (List.mem_filter.mp ha).1)
    case hkeys =>
      exact List.Nodup.sublist (List.Sublist.map _ (whereRows_sublist q metas _))
        (nodup_keys_of_pairwise (scanG_keys_pairwise cfg _
          (storeInv_run x cfg C.base.wf.res_pos ops C.base.pos) (includedFields cfg q)))
    case hfresh => exact fun c hc a ha => df.fresh c hc a (hspecmem a (List.mem_filter.mp ha).1)
    case hstore =>
      intro r hr j cj hj
      obtain ⟨ti, hti, rfl, hv, hp, sv⟩ := scanned_col x C hj
      exact hstore_of_scanView sv q metas x (C.base.scan_live ti hti hv hp) r hr
  · rw [e2eBucket_outside x C k T hW]
    exact (groupCell_derived_inv H metas k).2 T hW

end

/-- `HasData` of the script's bucket `(k, T)`, written out.  Vacuous for queries without a field
    that has a value on the empty state. -/
def HoldsData (x : Ext) (cfg : TableCfg) (ops : List StoreOp) (q : Query) (metas : List KeyMeta) (pl : Plan)
    (k : Key) (T : Int) : Prop :=
  ∀ f ∈ q.outFields, f.ex.isConstant = false → f.ex.val x f.ex.empty ≠ none →
    f.ex.acc x (e2eBucket x cfg ops q metas pl k T) ≠ f.ex.empty

/-- the row `specOut` builds for the bucket `(k, T)` of the script -/
def e2eSpecAt (x : Ext) (cfg : TableCfg) (ops : List StoreOp) (q : Query) (metas : List KeyMeta) (pl : Plan)
    (k : Key) (T : Int) : Option QRow :=
  specAt x q metas (specRows q metas (acceptedRows cfg true (pointsOf ops)).1)
    (gAsOfOf cfg (runStore x cfg ops).now pl) (gUntilOf cfg (runStore x cfg ops).now pl) (gResOf cfg pl) k T

/-- the rows `runQuery` builds before HAVING -/
def e2eFlat (x : Ext) (cfg : TableCfg) (ops : List StoreOp) (q : Query) (metas : List KeyMeta) (pl : Plan) : List QRow :=
  (e2eGroup x cfg ops q metas pl).flatMap (flattenRow x q.outFields (gResOf cfg pl))

/-- the rows `specQuery` builds before HAVING -/
def e2eSpecFlat (x : Ext) (cfg : TableCfg) (ops : List StoreOp) (q : Query) (metas : List KeyMeta) (pl : Plan) : List QRow :=
  (specBuckets q (specRows q metas (acceptedRows cfg true (pointsOf ops)).1)
      (gAsOfOf cfg (runStore x cfg ops).now pl) (gUntilOf cfg (runStore x cfg ops).now pl) (gResOf cfg pl)).filterMap
    (fun kT => e2eSpecAt x cfg ops q metas pl kT.1 kT.2)

/-- the read-out applies to derived selected fields; `HoldsData`, `e2eSpecAt`, `e2eFlat` and
    `e2eSpecFlat` unfold to the terms its lemmas speak of -/
theorem derived_readOut (x : Ext) {cfg : TableCfg} {ops : List StoreOp} {q : Query} {metas : List KeyMeta} {pl : Plan}
    (C : DerivedCtx x cfg ops q metas pl) (hall : ∀ f ∈ q.outFields, DerivedField x cfg ops q f) :
    ReadOut x cfg (runStore x cfg ops).now q pl (includedFields cfg q) metas (e2eScan x cfg ops q metas)
      (specRows q metas (acceptedRows cfg true (pointsOf ops)).1) (gAsOfOf cfg (runStore x cfg ops).now pl)
      (gUntilOf cfg (runStore x cfg ops).now pl) (gResOf cfg pl) :=
  ⟨C.base.resPos,
    fun i hi k => onGrid_of_recvGrid (groupCell_derived_inv
      (derivedCell_of_store x C i _ (List.getElem?_eq_getElem hi) (hall _ (List.getElem_mem hi))) metas k).1,
    fun i hi k T hT => derived_cell_at x C i _ (List.getElem?_eq_getElem hi) (hall _ (List.getElem_mem hi)) k T hT,
    fun f hf _ => ⟨(hall f hf).valid, (hall f hf).noPtile⟩⟩

end Zeno
