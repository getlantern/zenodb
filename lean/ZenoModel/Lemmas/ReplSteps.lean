/-
Per-event preservation of the replication invariant (Lemmas/Repl.lean `Inv`).

Every event writes a few components of the state, each at one index (`fun l' f' => if l' = l ∧
f' = f then v else s.x l' f'`).  A field of `Inv` that reads none of the written components holds
of the new state by unfolding, so each proof is `{ hi with … }` over the fields that do read one.
Where the event only strengthens a field's guard (a flag cleared, a queue emptied) the old fact is
handed the weakened hypothesis (`of_ite_false`, `of_ite_none`, `of_mem_ite_nil`).  Otherwise the old
facts that are used are named and the case split on the index is left to `grind`; for the fields
with many binders they are taken at the indices of the goal, and a fact only one field needs is
stated inside that field: `grind` pays for every quantified hypothesis in its context, at every call.
-/
import ZenoModel.Lemmas.Repl

namespace Zeno.Repl

/-- the invariant survives any extension of the WALs by entries beyond their tops -/
theorem Inv.growWal {cx : Ctx} {s : State} (hi : Inv cx s) {wal' : LId → List Entry}
    (hs : ∀ l, (wal' l).Pairwise (fun a b => a.off < b.off)) (hold : ∀ l, ∀ x ∈ s.wal l, x ∈ wal' l)
    (hnew : ∀ l, ∀ x ∈ wal' l, x ∈ s.wal l ∨ top (s.wal l) < x.off) : Inv cx { s with wal := wal' } := by
  have hT : ∀ {l b}, b ≤ top (s.wal l) → b ≤ top (wal' l) := fun hb =>
    Nat.le_trans hb (top_le fun x hx => le_top (hold _ x hx))
  have hin : ∀ {l b x}, b ≤ top (s.wal l) → x ∈ wal' l → x.off ≤ b → x ∈ s.wal l := fun hb hx hxb =>
    (hnew _ _ hx).resolve_right (by omega)
  have hX : ∀ {l t f off apps}, Exact cx (s.wal l) t f off apps → off ≤ top (s.wal l) →
      Exact cx (wal' l) t f off apps := fun h hb => h.growWal (hold _) fun x => hin hb
  exact { hi with
    walSorted := hs
    exMem := fun f t l => hX (hi.exMem f t l) (hi.memTop f t l)
    exDisk := fun f t l => hX (hi.exDisk f t l) (hi.diskTop f t l)
    exSnap := fun f t l => hX (hi.exSnap f t l) (hi.snapTop f t l)
    memTop := fun f t l => hT (hi.memTop f t l)
    diskTop := fun f t l => hT (hi.diskTop f t l)
    snapTop := fun f t l => hT (hi.snapTop f t l)
    offTop := fun f t l => hT (hi.offTop f t l)
    snapOffTop := fun f t l => hT (hi.snapOffTop f t l)
    offExact := fun f t l => (hi.offExact f t l).imp_right fun h => hX h (hi.offTop f t l)
    snapOffExact := fun f t l => (hi.snapOffExact f t l).imp_right fun h => hX h (hi.snapOffTop f t l)
    priorTop := fun f t l => hT (hi.priorTop f t l)
    pendRange := fun f t l hf o ho =>
      have ⟨h1, h2, x, hx, hxo⟩ := hi.pendRange f t l hf o ho
      ⟨h1, h2, x, hold l x hx, hxo⟩
    pendCover := fun f t l hf x hx hw h1 h2 =>
      hi.pendCover f t l hf x (hin (hi.priorTop f t l) hx h2) hw h1 h2
    earliestTop := fun f l => hT (hi.earliestTop f l)
    reqTop := fun l f => hT (hi.reqTop l f)
    doneTop := fun l t f => hT (hi.doneTop l t f)
    gap := fun l t f sp hsp x hx h1 h2 => hi.gap l t f sp hsp x (hin (hi.doneTop l t f) hx h2) h1 h2
    queueWal := fun l f o ho =>
      have ⟨x, hx, hxo⟩ := hi.queueWal l f o ho
      ⟨x, hold l x hx, hxo⟩
    linkCover := fun l f t sp hl hsp x hx hw h1 h2 =>
      have hb := Nat.le_trans (hi.specLeDone l t f sp hsp) (hi.doneTop l t f)
      hi.linkCover l f t sp hl hsp x (hin hb hx h2) hw h1 h2
    inflWal := fun f l o rem h =>
      have ⟨x, hx, hxo⟩ := hi.inflWal f l o rem h
      ⟨x, hold l x hx, hxo⟩
    inflGap := fun f l o rem t h ht x hx hw h1 h2 =>
      have ⟨y, hy, hyo⟩ := hi.inflWal f l o rem h
      hi.inflGap f l o rem t h ht x (hin (le_top hy) hx (by omega)) hw h1 h2 }

theorem inv_insert {cx : Ctx} {s s' : State} (hi : Inv cx s) (l : LId) (e : Entry)
    (h : step cx s (.insert l e) = some s') : Inv cx s' := by
  simp only [step, Option.ite_none_right_eq_some, Option.some.injEq] at h
  obtain ⟨hguard, rfl⟩ := h
  refine hi.growWal (fun l' => ?_) (fun l' x hx => ?_) (fun l' x hx => ?_)
  · have := hi.walSorted l'
    have := sorted_append (hi.walSorted l) hguard.2
    grind
  · grind
  · grind
theorem inv_connect {cx : Ctx} {s s' : State} (hi : Inv cx s) (l : LId) (f : FId)
    (h : step cx s (.connect l f) = some s') : Inv cx s' := by
  simp only [step, Option.ite_none_right_eq_some, Option.some.injEq] at h
  obtain ⟨hguard, rfl⟩ := h
  exact { hi with
    connUp := by have := hi.connUp; grind
    linkConn := by have := hi.linkConn; grind
    queueDown := by have := hi.queueDown; grind
    reqLe := by have := hi.reqLe; have := hi.earliestLe; grind
    reqTop := by have := hi.reqTop; have := hi.earliestTop; grind
    specLink := fun l1 f1 t h => hi.specLink l1 f1 t (of_ite_false h).2
    queueSorted := by have := hi.queueSorted; grind [List.Pairwise.nil]
    queueDone := fun l1 t f1 sp hs o ho => hi.queueDone l1 t f1 sp hs o (of_mem_ite_nil ho).2
    queueWal := fun l1 f1 o ho => hi.queueWal l1 f1 o (of_mem_ite_nil ho).2
    linkCover := fun l1 f1 t sp hl hs x hx => by have := hi.linkCover l1 f1 t sp; grind }

theorem inv_join {cx : Ctx} {s s' : State} (hi : Inv cx s) (l : LId) (f : FId) (claim : TId → Nat)
    (h : step cx s (.join l f claim) = some s') : Inv cx s' := by
  simp only [step, Option.ite_none_right_eq_some, Option.some.injEq] at h
  obtain ⟨hguard, rfl⟩ := h
  exact { hi with
    linkConn := by have := hi.linkConn; grind
    queueDown := by have := hi.queueDown; grind
    reqLe := by have := hi.reqLe; grind
    specJoined := fun l1 t f1 sp hs => by have := hi.specJoined l1 t f1 sp; grind
    specLink := by
      intro l1 f1 t hl ht
      by_cases hc : l1 = l ∧ f1 = f
      · exact ⟨max (claim t) (s.reqEarliest l f), by simp [hc, ht]⟩
      · have := hi.specLink l1 f1 t
        grind
    specLeDone := by have := hi.specLeDone; grind
    doneTop := by have := hi.doneTop; have := hi.reqTop; grind
    cursorLeDone := by
      intro l1 t f1 sp hs
      by_cases hl : l1 = l
      · subst hl
        simp only [true_and, if_true] at hs ⊢
        -- the new cursor is the minimum of all spec offsets of this leader
        have hmem : f1 ∈ (if f ∈ s.joined l1 then s.joined l1 else f :: s.joined l1) ∧ t ∈ cx.tables := by
          have := hi.specJoined l1 t f1
          grind
        refine Nat.le_trans (minList_le (mem_specList hmem.1 hmem.2 hs)) ?_
        have := hi.specLeDone l1 t f1
        grind
      · have := hi.cursorLeDone l1 t f1 sp
        grind
    gap := fun l1 t f1 sp hs x hx => by have := hi.gap l1 t f1 sp; grind
    queueSorted := by have := hi.queueSorted; grind [List.Pairwise.nil]
    queueDone := fun l1 t f1 sp hs o ho => by have := hi.queueDone l1 t f1 sp; grind
    queueWal := fun l1 f1 o ho => hi.queueWal l1 f1 o (of_mem_ite_nil ho).2
    linkCover := fun l1 f1 t sp hl hs x hx => by
      have := hi.linkCover l1 f1 t sp
      have := hi.specJoined l1 t f1
      have := hi.reqLe l1 f1 t
      grind [inflightFrom] }

theorem inv_route {cx : Ctx} {s s' : State} (hi : Inv cx s) (l : LId) (o : Nat)
    (h : step cx s (.route l o) = some s') : Inv cx s' := by
  simp only [step] at h
  split at h
  · rename_i e hnext
    simp only [Option.ite_none_right_eq_some, Option.some.injEq] at h
    obtain ⟨hguard, rfl⟩ := h
    have hem := nextEntry_mem hnext
    exact { hi with
      queueDown := by have := hi.queueDown; have := hi.linkConn; grind
      specJoined := fun l1 t f sp hs => by have := hi.specJoined l1 t f; have := @advance_some cx e t f; grind
      specLink := by have := hi.specLink; grind [advance]
      specLeDone := fun l1 t f sp hs => by have := hi.specLeDone l1 t f; have := @advance_some cx e t f; grind
      doneTop := by have := hi.doneTop; have := le_top hem.1; grind
      cursorLeDone := by have := hi.cursorLeDone; grind
      gap := fun l1 t f sp hs x hx => by
        -- an entry beyond what had been considered is the entry routed now
        have := hi.gap l1 t f
        have := hi.cursorLeDone l1 t f
        have := hi.specLeDone l1 t f
        have := nextEntry_first (hi.walSorted l) hnext x
        have := @off_inj _ (hi.walSorted l) x e
        have := @advance_some cx e t f
        grind
      queueSorted := by
        intro l1 f1
        by_cases hc : l1 = l ∧ s.linkUp l f1 = true
        · obtain ⟨rfl, hlk⟩ := hc
          simp only [hlk, and_self, if_true]
          refine List.pairwise_append.mpr
            ⟨hi.queueSorted l1 f1, by simp [List.pairwise_replicate], fun a ha b hb => ?_⟩
          -- a copy goes out only for a table whose spec is behind `e`; by `gap`, `e` is then beyond `done`
          obtain ⟨hpos, rfl⟩ := List.mem_replicate.mp hb
          obtain ⟨t, ht, sp, hsp, hw, hlt⟩ := copies_pos_inv (Nat.pos_of_ne_zero hpos)
          have := hi.queueDone l1 t f1 sp hsp a ha
          have := hi.gap l1 t f1 sp hsp e hem.1 hlt
          have := wants_pid hw
          omega
        · have := hi.queueSorted l1 f1
          grind
      queueDone := fun l1 t f sp hs o1 ho => by have := hi.queueDone l1 t f; have := @advance_some cx e t f; grind
      queueWal := by have := hi.queueWal; grind
      linkCover := fun l1 f t sp hl hs x hx hw => by
        -- beyond the old spec offset only the entry routed now qualifies (`gap`), and it is sent
        have := hi.linkCover l1 f t
        have := hi.cursorLeDone l1 t f
        have := hi.specLeDone l1 t f
        have := hi.gap l1 t f
        have := hi.specJoined l1 t f
        have := @copies_pos cx (s.spec l) e f t
        have := wants_pid hw
        have := nextEntry_first (hi.walSorted l) hnext x
        have := @off_inj _ (hi.walSorted l) x e
        have := @advance_some cx e t f
        grind }
  · cases h

theorem inv_msg {cx : Ctx} {s s' : State} (hi : Inv cx s) (f : FId) (l : LId) (o : Nat)
    (h : step cx s (.msg f l o) = some s') : Inv cx s' := by
  simp only [step] at h
  split at h
  · rename_i o' rest hq
    simp only [Option.ite_none_right_eq_some, Option.some.injEq] at h
    obtain ⟨⟨hfup, hlink, hinfl, rfl⟩, rfl⟩ := h
    have hqs := hi.queueSorted l f
    rw [hq, List.pairwise_cons] at hqs
    have hwal := hi.queueWal l f o' (by rw [hq]; simp)
    exact { hi with
      queueDown := by have := hi.queueDown; grind
      queueSorted := by have := hi.queueSorted; grind
      queueDone := by have := hi.queueDone; grind
      queueWal := by have := hi.queueWal; grind
      linkCover := fun l1 f1 t sp hl hs x hx => by have := hi.linkCover l1 f1 t sp hl hs x hx; have := hi.specJoined l1 t f1 sp hs; grind
      inflUp := by have := hi.inflUp; grind
      inflWal := by have := hi.inflWal; grind
      inflDone := by have := hi.inflDone; grind
      inflGap := fun f1 l1 o1 rem t h ht x hx hw => by
        -- an entry below the head `o'` of the queue that `t` still wants would, by `linkCover`, be
        -- in the sorted queue if the spec is past it, and contradicts `gap` if not
        have := hi.inflGap f1 l1 o1 rem t
        have := hi.specLink l f t hlink
        have := hi.linkCover l f t
        have := hi.queueDone l t f
        have := hi.gap l t f
        have := wants_pid hw
        grind }
  · cases h

theorem inv_recv {cx : Ctx} {s s' : State} (hi : Inv cx s) (f : FId) (t : TId) (l : LId) (o : Nat) (fwd : Bool)
    (h : step cx s (.recv f t l o fwd) = some s') : Inv cx s' := by
  simp only [step] at h
  split at h
  · rename_i o' t' rest hinf
    simp only [Option.ite_none_right_eq_some, Option.some.injEq] at h
    obtain ⟨⟨rfl, rfl, hfwd⟩, rfl⟩ := h
    obtain ⟨e0, he0, he0o⟩ := hi.inflWal f l _ _ hinf
    exact { hi with
      priorTop := by have := hi.priorTop; have := le_top he0; grind
      memLePrior := by have := hi.memLePrior; grind
      pendSorted := fun f1 t1 l1 hf => by have := hi.pendSorted f1 t1 l1 hf; have := hi.pendRange f1 t1 l1 hf; grind
      pendRange := fun f1 t1 l1 hf o1 ho => by have := hi.pendRange f1 t1 l1 hf o1; have := hi.memLePrior f1 t1 l1 hf; grind
      pendCover := fun f1 t1 l1 hf x hx => by
        -- `prior` moves up to the received entry: `inflGap` says that `t'` wants nothing in between
        have := hi.pendCover f1 t1 l1 hf x hx
        have := hi.inflGap f l _ _ t' hinf (by simp) x
        grind
      earliestLe := by have := hi.earliestLe; grind
      reqLe := by have := hi.reqLe; grind
      linkCover := fun l1 f1 t1 sp hl hs x hx => by have := hi.linkCover l1 f1 t1 sp hl hs x hx; grind
      inflUp := by have := hi.inflUp; grind
      inflWal := by have := hi.inflWal; grind
      inflDone := fun f1 l1 o1 rem h t1 => by have := hi.inflDone f1 l1; grind
      inflGap := fun f1 l1 o1 rem t1 h ht x hx => by have := hi.inflGap f1 l1; grind }
  · cases h

theorem inv_msgdone {cx : Ctx} {s s' : State} (hi : Inv cx s) (f : FId) (l : LId) (o : Nat)
    (h : step cx s (.msgdone f l o) = some s') : Inv cx s' := by
  simp only [step] at h
  split at h
  · rename_i o' heq
    simp only [Option.ite_none_right_eq_some, Option.some.injEq] at h
    obtain ⟨rfl, rfl⟩ := h
    exact { hi with
      earliestLe := by have := hi.earliestLe; have := hi.inflDone; grind
      earliestTop := by have := hi.earliestTop; have := hi.inflWal; have := @le_top (s.wal l); grind
      linkCover := fun l1 f1 t sp hl hs x hx => by have := hi.linkCover l1 f1 t sp; grind
      inflUp := fun f1 l1 x h => hi.inflUp f1 l1 x (of_ite_none h).2
      inflWal := fun f1 l1 o1 rem h => hi.inflWal f1 l1 o1 rem (of_ite_none h).2
      inflDone := fun f1 l1 o1 rem h => hi.inflDone f1 l1 o1 rem (of_ite_none h).2
      inflGap := fun f1 l1 o1 rem t h => hi.inflGap f1 l1 o1 rem t (of_ite_none h).2 }
  · cases h

theorem inv_apply {cx : Ctx} {s s' : State} (hi : Inv cx s) (f : FId) (t : TId) (l : LId) (o : Nat) (hasKey : Bool)
    (h : step cx s (.apply f t l o hasKey) = some s') : Inv cx s' := by
  simp only [step] at h
  split at h
  · rename_i o' rest e hpend hentry
    simp only [Option.ite_none_right_eq_some, Option.some.injEq] at h
    obtain ⟨⟨hfup, rfl, hkey⟩, rfl⟩ := h
    obtain ⟨he, heo⟩ := entryAt_mem hentry
    have hps := hi.pendSorted f t l hfup
    rw [hpend, List.pairwise_cons] at hps
    have hpr := hi.pendRange f t l hfup o' (by rw [hpend]; simp)
    exact { hi with
      exMem := by
        intro f1 t1 l1
        by_cases hc : f1 = f ∧ t1 = t ∧ l1 = l
        · obtain ⟨rfl, rfl, rfl⟩ := hc
          -- what is wanted between the store's offset and `o'` is pending, and `o'` heads the pipeline
          have := Exact.advance (hi.exMem f1 t1 l1) he (by omega) (fun e' he' hw h1 h2 => by
            have hin := hi.pendCover f1 t1 l1 hfup e' he' hw h1 (by omega)
            rw [hpend] at hin
            rcases List.mem_cons.mp hin with h3 | h3
            · exact off_inj (hi.walSorted l1) he' he (by omega)
            · have := hps.1 _ h3
              omega)
          grind
        · have := hi.exMem f1 t1 l1
          grind
      memTop := by have := hi.memTop; have := hi.priorTop f t l; grind
      dirtyInv := by have := hi.dirtyInv; grind
      diskLeMem := by have := hi.diskLeMem; grind
      offLeMem := by have := hi.offLeMem; grind
      memLePrior := by have := hi.memLePrior; grind
      pendSorted := by have := hi.pendSorted; grind
      pendRange := fun f1 t1 l1 hf o1 ho => by have := hi.pendRange f1 t1 l1 hf o1; grind
      pendCover := by have := hi.pendCover; grind }
  · cases h

theorem inv_persist_data {cx : Ctx} {s s' : State} (hi : Inv cx s) (f : FId) (t : TId)
    (h : step cx s (.persist f t true) = some s') : Inv cx s' := by
  simp only [step] at h
  split at h
  · simp only [Option.some.injEq] at h
    subst h
    exact { hi with
      exDisk := by have := hi.exDisk; have := hi.exMem; grind
      diskTop := by have := hi.diskTop; have := hi.memTop; grind
      offExact := by have := hi.offExact; have := hi.offLeMem; grind
      dirtyInv := by have := hi.dirtyInv; grind
      diskLeMem := by have := hi.diskLeMem; grind }
  · cases h

theorem inv_persist_offsets {cx : Ctx} {s s' : State} (hi : Inv cx s) (f : FId) (t : TId)
    (h : step cx s (.persist f t false) = some s') : Inv cx s' := by
  simp only [step] at h
  split at h
  · simp only [Option.some.injEq] at h
    subst h
    rename_i hguard
    -- the memstore is empty: what it reflects is what the filestore holds
    have hd := hi.dirtyInv f t hguard.1 hguard.2
    have hx : ∀ l, Exact cx (s.wal l) t f (s.memOff f t l) (s.diskApps f t l) := by
      intro l
      rw [← hd l]
      exact hi.exMem f t l
    exact { hi with
      offTop := by have := hi.offTop; have := hi.memTop; grind
      offExact := by have := hi.offExact; grind
      offLeMem := by have := hi.offLeMem; grind }
  · cases h

theorem inv_snapshot {cx : Ctx} {s s' : State} (hi : Inv cx s) (f : FId)
    (h : step cx s (.snapshot f) = some s') : Inv cx s' := by
  simp only [step, Option.some.injEq] at h
  subst h
  exact { hi with
    exSnap := by have := hi.exSnap; have := hi.exDisk; grind
    snapTop := by have := hi.snapTop; have := hi.diskTop; grind
    snapOffTop := by have := hi.snapOffTop; have := hi.offTop; grind
    snapOffExact := by have := hi.snapOffExact; have := hi.offExact; grind }

theorem inv_stopFollower {cx : Ctx} {s s' : State} (hi : Inv cx s) (f : FId)
    (h : step cx s (.stopFollower f) = some s') : Inv cx s' := by
  simp only [step, Option.ite_none_right_eq_some, Option.some.injEq] at h
  obtain ⟨hguard, rfl⟩ := h
  exact { hi with
    dirtyInv := fun f1 t h => hi.dirtyInv f1 t (of_ite_false h).2
    diskLeMem := fun f1 t l h => hi.diskLeMem f1 t l (of_ite_false h).2
    offLeMem := fun f1 t l h => hi.offLeMem f1 t l (of_ite_false h).2
    memLePrior := fun f1 t l h => hi.memLePrior f1 t l (of_ite_false h).2
    pendSorted := fun f1 t l h => hi.pendSorted f1 t l (of_ite_false h).2
    pendRange := fun f1 t l h => hi.pendRange f1 t l (of_ite_false h).2
    pendCover := fun f1 t l h => hi.pendCover f1 t l (of_ite_false h).2
    earliestLe := fun f1 t l h => hi.earliestLe f1 t l (of_ite_false h).2
    connUp := by have := hi.connUp; grind
    linkConn := by have := hi.linkConn; grind
    queueDown := by have := hi.queueDown; grind
    reqLe := fun l f1 t hr hc => hi.reqLe l f1 t hr (of_ite_false hc).2
    specLink := fun l f1 t h => hi.specLink l f1 t (of_ite_false h).2
    queueSorted := by have := hi.queueSorted; grind [List.Pairwise.nil]
    queueDone := fun l t f1 sp hs o ho => hi.queueDone l t f1 sp hs o (of_mem_ite_nil ho).2
    queueWal := fun l f1 o ho => hi.queueWal l f1 o (of_mem_ite_nil ho).2
    linkCover := fun l1 f1 t sp hl hs x hx => by have := hi.linkCover l1 f1 t sp; grind
    inflUp := by have := hi.inflUp; grind
    inflWal := fun f1 l o rem h => hi.inflWal f1 l o rem (of_ite_none h).2
    inflDone := fun f1 l o rem h => hi.inflDone f1 l o rem (of_ite_none h).2
    inflGap := fun f1 l o rem t h => hi.inflGap f1 l o rem t (of_ite_none h).2 }

theorem inv_restoreSnapshot {cx : Ctx} {s s' : State} (hi : Inv cx s) (f : FId)
    (h : step cx s (.restoreSnapshot f) = some s') : Inv cx s' := by
  simp only [step] at h
  split at h
  · simp only [Option.some.injEq] at h
    subst h
    exact { hi with
      exDisk := by have := hi.exDisk; have := hi.exSnap; grind
      diskTop := by have := hi.diskTop; have := hi.snapTop; grind
      offTop := by have := hi.offTop; have := hi.snapOffTop; grind
      offExact := by have := hi.offExact; have := hi.snapOffExact; grind
      dirtyInv := by have := hi.dirtyInv; grind
      diskLeMem := by have := hi.diskLeMem; grind
      offLeMem := by have := hi.offLeMem; grind }
  · cases h

theorem inv_startFollower {cx : Ctx} (hg : Good cx) {s s' : State} (hi : Inv cx s) (f : FId)
    (h : step cx s (.startFollower f) = some s') : Inv cx s' := by
  simp only [step, Option.ite_none_right_eq_some, Option.some.injEq] at h
  obtain ⟨hguard, rfl⟩ := h
  exact { hi with
    -- the recovered offset is the maximum of the two offset records, and the recovered data is exact for it
    exMem := by have := hi.exMem; have := hi.recOff_exact hg f; grind
    memTop := by have := hi.memTop; have := hi.recOff_top hg f; grind
    dirtyInv := by have := hi.dirtyInv; grind
    diskLeMem := by have := hi.diskLeMem; have := recOff_eq hg s f; grind
    offLeMem := by have := hi.offLeMem; have := recOff_eq hg s f; grind
    priorTop := by have := hi.priorTop; have := hi.recOff_top hg f; grind
    memLePrior := by have := hi.memLePrior; grind
    pendSorted := by have := hi.pendSorted; grind [List.Pairwise.nil]
    pendRange := fun f1 t l hf o ho => by have := hi.pendRange f1 t l; grind
    pendCover := fun f1 t l hf x hx => by have := hi.pendCover f1 t l; grind
    earliestLe := by
      have := hi.earliestLe
      have := fun l => @earliestOf_le cx hg (fun t => recOff cx s f t l)
      grind
    earliestTop := by
      have := hi.earliestTop
      have := fun l => earliestOf_le_bound (cx := cx) _ (hi.recOff_top hg f · l)
      grind
    connUp := by have := hi.connUp; grind
    reqLe := by have := hi.reqLe; have := hi.connUp; grind
    linkCover := fun l f1 t sp hl hs x hx => by
      have := hi.linkCover l f1 t sp hl hs x hx
      have := hi.connUp l f1 (hi.linkConn l f1 hl)
      grind
    inflUp := by have := hi.inflUp; grind
    inflWal := fun f1 l o rem h => hi.inflWal f1 l o rem (of_ite_none h).2
    inflDone := fun f1 l o rem h => by have := hi.inflDone f1 l o rem; have := hi.inflUp f1 l; grind
    inflGap := fun f1 l o rem t h => by have := hi.inflGap f1 l o rem t; have := hi.inflUp f1 l; grind }

theorem inv_cutLink {cx : Ctx} {s s' : State} (hi : Inv cx s) (l : LId) (f : FId)
    (h : step cx s (.cutLink l f) = some s') : Inv cx s' := by
  simp only [step, Option.some.injEq] at h
  subst h
  exact { hi with
    connUp := fun l1 f1 h => hi.connUp l1 f1 (of_ite_false h).2
    linkConn := by have := hi.linkConn; grind
    queueDown := by have := hi.queueDown; grind
    reqLe := fun l1 f1 t hr hc => hi.reqLe l1 f1 t hr (of_ite_false hc).2
    specLink := fun l1 f1 t h => hi.specLink l1 f1 t (of_ite_false h).2
    queueSorted := by have := hi.queueSorted; grind [List.Pairwise.nil]
    queueDone := fun l1 t f1 sp hs o ho => hi.queueDone l1 t f1 sp hs o (of_mem_ite_nil ho).2
    queueWal := fun l1 f1 o ho => hi.queueWal l1 f1 o (of_mem_ite_nil ho).2
    linkCover := fun l1 f1 t sp hl hs x hx => by have := hi.linkCover l1 f1 t sp; grind }

theorem inv_stopLeader {cx : Ctx} {s s' : State} (hi : Inv cx s) (l : LId)
    (h : step cx s (.stopLeader l) = some s') : Inv cx s' := by
  simp only [step] at h
  split at h
  · simp only [Option.some.injEq] at h
    subst h
    exact { hi with
      connUp := by have := hi.connUp; grind
      linkConn := by have := hi.linkConn; grind
      queueDown := by have := hi.queueDown; grind
      reqLe := fun l1 f t hr hc => hi.reqLe l1 f t (of_ite_false hr).2 (of_ite_false hc).2
      specJoined := by have := hi.specJoined; grind
      specLink := by have := hi.specLink; grind
      specLeDone := fun l1 t f sp h => hi.specLeDone l1 t f sp (of_ite_none h).2
      cursorLeDone := by have := hi.cursorLeDone; grind
      gap := fun l1 t f sp h => hi.gap l1 t f sp (of_ite_none h).2
      queueSorted := by have := hi.queueSorted; grind [List.Pairwise.nil]
      queueDone := fun l1 t f sp hs o ho => hi.queueDone l1 t f sp (of_ite_none hs).2 o (of_mem_ite_nil ho).2
      queueWal := fun l1 f o ho => hi.queueWal l1 f o (of_mem_ite_nil ho).2
      linkCover := fun l1 f1 t sp hl hs x hx => by have := hi.linkCover l1 f1 t sp; grind }
  · cases h

theorem inv_startLeader {cx : Ctx} {s s' : State} (hi : Inv cx s) (l : LId)
    (h : step cx s (.startLeader l) = some s') : Inv cx s' := by
  simp only [step] at h
  split at h
  · simp only [Option.some.injEq] at h
    subst h
    exact { hi with connUp := by have := hi.connUp; grind }
  · cases h

end Zeno.Repl
