/-
Helper lemmas for Props/C19Session.lean: what a step of the session machine does to the state
and when it sets a cookie.
-/
import ZenoModel.Model.AuthSession

namespace Zeno

/-- What one step does to state and cookie: nothing; or, only where the guard `g` of that place
    fires, it appends the cookie it sets, marked verified iff the answer was "in org", and answers `out`. -/
def StepEffect (g : Guard) (r : SReq) (out : Outcome) (s : SessState) (x : SessState × SResp) : Prop :=
  (∃ resp, x = (s, resp) ∧ resp.setCookie = none) ∨
  (∃ c resp, x = (s ++ [c], resp) ∧ resp.setCookie = some c ∧
    g.fires r.orgAns = true ∧ c.verified = (r.orgAns == .inOrg) ∧ resp.outcome = out)

section
variable {g : Guard} {r : SReq} {out : Outcome} {s : SessState} {x : SessState × SResp}

theorem StepEffect.grows (h : StepEffect g r out s x) : x.1 = s ++ x.2.setCookie.toList := by
  rcases h with ⟨resp, e, hn⟩ | ⟨c, resp, e, hc, _⟩
  · simp [e, hn]
  · simp [e, hc]

theorem StepEffect.of_setCookie {c : Session} (h : StepEffect g r out s x) (hc : x.2.setCookie = some c) :
    g.fires r.orgAns = true ∧ c.verified = (r.orgAns == .inOrg) ∧ x.2.outcome = out := by
  rcases h with ⟨resp, e, hn⟩ | ⟨c', resp, e, hc', hrest⟩
  · rw [e, hn] at hc
    cases hc
  · rw [e, hc'] at hc
    cases hc
    rw [e]
    exact hrest

end

theorem stepData_effect (pol : Policy) (o : WebOpts) (s : SessState) (p : String) (r : SReq) :
    StepEffect pol.recheck r (if r.orgAns == .inOrg then .served else .redirect) s (stepData pol o s p r) := by
  unfold stepData
  by_cases g1 : (!(webRouteGuarded p).getD true) = true
  · exact Or.inl ⟨_, if_pos g1, rfl⟩
  rw [if_neg g1]
  by_cases g2 : (!oauthSet o) = true
  · exact Or.inl ⟨_, if_pos g2, rfl⟩
  rw [if_neg g2]
  by_cases g3 : (o.password != "" && r.header != "") = true
  · rw [if_pos g3]
    by_cases g4 : (r.header == o.password) = true
    · exact Or.inl ⟨_, if_pos g4, rfl⟩
    · exact Or.inl ⟨_, if_neg g4, rfl⟩
  rw [if_neg g3]
  cases r.cookie with
  | none => exact Or.inl ⟨_, rfl, rfl⟩
  | forged => exact Or.inl ⟨_, rfl, rfl⟩
  | issued i =>
    dsimp only
    cases s[i]? with
    | none => exact Or.inl ⟨_, rfl, rfl⟩
    | some c0 =>
      dsimp only
      by_cases hf : r.now < c0.expiry
      · exact Or.inl ⟨_, if_pos hf, rfl⟩
      rw [if_neg hf]
      by_cases hg : pol.recheck.fires r.orgAns = true
      · exact Or.inr ⟨_, _, if_pos hg, rfl, hg, rfl, rfl⟩
      · exact Or.inl ⟨_, if_neg hg, rfl⟩

theorem stepCallback_effect (pol : Policy) (s : SessState) (r : SReq) :
    StepEffect pol.callback r .loggedIn s (stepCallback pol s r) := by
  unfold stepCallback
  by_cases g1 : (!r.stateOk) = true
  · exact Or.inl ⟨_, if_pos g1, rfl⟩
  rw [if_neg g1]
  cases r.tokenAns.principal with
  | none => exact Or.inl ⟨_, rfl, rfl⟩
  | some p =>
    dsimp only
    by_cases hg : pol.callback.fires r.orgAns = true
    · exact Or.inr ⟨_, _, if_pos hg, rfl, hg, rfl, rfl⟩
    rw [if_neg hg]
    cases r.orgAns.result with
    | none => exact Or.inl ⟨_, rfl, rfl⟩
    | some b => exact Or.inl ⟨_, rfl, rfl⟩

/-- A data request sets a cookie only at the re-check of a timed-out session, when the
    policy's re-check guard fires; the cookie is marked verified iff the answer was "in org",
    and the request is served iff the answer was "in org". -/
theorem stepData_setCookie {pol : Policy} {o : WebOpts} {s : SessState} {p : String} {r : SReq}
    {c : Session} (h : (stepData pol o s p r).2.setCookie = some c) :
    pol.recheck.fires r.orgAns = true ∧ c.verified = (r.orgAns == .inOrg) ∧
    (stepData pol o s p r).2.outcome = (if r.orgAns == .inOrg then .served else .redirect) :=
  (stepData_effect pol o s p r).of_setCookie h

/-- The callback sets a cookie only when the policy's callback guard fires; that response is
    the "logged in" redirect. -/
theorem stepCallback_setCookie {pol : Policy} {s : SessState} {r : SReq} {c : Session}
    (h : (stepCallback pol s r).2.setCookie = some c) :
    pol.callback.fires r.orgAns = true ∧ c.verified = (r.orgAns == .inOrg) ∧
    (stepCallback pol s r).2.outcome = .loggedIn :=
  (stepCallback_effect pol s r).of_setCookie h

/-- A safe guard fires on no answer but "in org". -/
theorem safe_guard_fires_only_in_org (g : Guard) (hg : g.safe = true) (a : OrgAnswer)
    (hf : g.fires a = true) : a = .inOrg := by
  cases g with
  | mk n i ni e =>
    simp only [Guard.safe, Bool.and_eq_true, Bool.not_eq_true'] at hg
    obtain ⟨⟨hn, hni⟩, he⟩ := hg
    cases a <;> simp_all [Guard.fires, OrgAnswer.result]

end Zeno
