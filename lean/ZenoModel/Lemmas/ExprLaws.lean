/-
Algebraic laws of merge/update for valid, PERCENTILE-free expressions:
leaf laws over the regenerated closures, then identity, commutativity,
associativity of `mrg` and the update/merge step law, by induction over the tree; from these,
`acc` as a homomorphism from lists of points under `++` and permutation (`mrg_acc_append`,
`nway_merge`, `acc_perm`).  Two permutation facts about plain lists that the users of `acc_perm`
need (`flatMap_perm_congr`, `filter_or_perm`) stand here as well, the lowest module they share.
-/
import ZenoModel.Lemmas.Expr

namespace Zeno
open Gen

/-! leaf laws: proof obligations over Generated/Leaves.lean -/

theorem aggMerge_comm (k : AggKind) (a b : Rat) : aggMerge k true a b = aggMerge k true b a := by
  cases k <;> simp [aggMerge, agg_SUM_merge, agg_MIN_merge, agg_MAX_merge, agg_COUNT_merge] <;> grind

theorem aggMerge_assoc (k : AggKind) (a b c : Rat) :
    aggMerge k true (aggMerge k true a b) c = aggMerge k true a (aggMerge k true b c) := by
  cases k <;> simp [aggMerge, agg_SUM_merge, agg_MIN_merge, agg_MAX_merge, agg_COUNT_merge] <;> grind

/-- first update of an unset cell, seen from a set one -/
theorem aggUpdate_first (k : AggKind) (a v : Rat) :
    aggUpdate k true a v = aggMerge k true a (aggUpdate k false 0 v) := by
  cases k <;> simp [aggMerge, aggUpdate, agg_SUM_merge, agg_MIN_merge, agg_MAX_merge, agg_COUNT_merge,
    agg_SUM_update, agg_MIN_update, agg_MAX_update, agg_COUNT_update] <;> grind

theorem aggUpdate_merge (k : AggKind) (a b v : Rat) :
    aggUpdate k true (aggMerge k true a b) v = aggMerge k true a (aggUpdate k true b v) := by
  cases k <;> simp [aggMerge, aggUpdate, agg_SUM_merge, agg_MIN_merge, agg_MAX_merge, agg_COUNT_merge,
    agg_SUM_update, agg_MIN_update, agg_MAX_update, agg_COUNT_update] <;> grind

/-- COUNT's two different closures agree: merging counts = counting everything -/
theorem count_update_is_merge_one (a : Rat) : aggUpdate .count true a 0 = aggMerge .count true a 1 := by
  simp [aggMerge, aggUpdate, agg_COUNT_merge, agg_COUNT_update]

theorem mergeOpt_none_right {α : Type} (f : α → α → α) (a : Option α) : mergeOpt f a none = a := by
  cases a <;> rfl

theorem mergeOpt_comm {α : Type} (f : α → α → α) (hf : ∀ a b, f a b = f b a) (a b : Option α) :
    mergeOpt f a b = mergeOpt f b a := by
  cases a <;> cases b <;> simp [mergeOpt, hf]

theorem mergeOpt_assoc {α : Type} (f : α → α → α) (hf : ∀ a b c, f (f a b) c = f a (f b c))
    (a b c : Option α) : mergeOpt f (mergeOpt f a b) c = mergeOpt f a (mergeOpt f b c) := by
  cases a <;> cases b <;> cases c <;> simp [mergeOpt, hf]

/-! two permutation facts about plain lists, for the users of `acc_perm` -/

theorem flatMap_perm_congr {α β : Type} {l : List α} {f g : α → List β}
    (h : ∀ a ∈ l, (f a).Perm (g a)) : (l.flatMap f).Perm (l.flatMap g) := by
  induction l with
  | nil => simp
  | cons a l ih =>
    simp only [List.flatMap_cons]
    exact List.Perm.append (h a (by simp)) (ih (fun b hb => h b (by simp [hb])))

theorem filter_or_perm {α : Type} (p q : α → Bool) (l : List α)
    (hd : ∀ a ∈ l, ¬ (p a = true ∧ q a = true)) :
    (l.filter p ++ l.filter q).Perm (l.filter (fun a => p a || q a)) := by
  induction l with
  | nil => simp
  | cons a l ih =>
    have ih' := ih (fun b hb => hd b (by simp [hb]))
    have ha := hd a (by simp)
    cases hp : p a <;> cases hq : q a
    · simpa [List.filter, hp, hq] using ih'
    · simp only [List.filter, hp, hq, Bool.false_or]
      exact List.perm_middle.trans (List.Perm.cons a ih')
    · simp only [List.filter, hp, hq, Bool.or_false, List.cons_append]
      exact List.Perm.cons a ih'
    · exact absurd ⟨hp, hq⟩ ha

/-! `mrg` and `upd` on the aggregate leaves, then the laws by induction over the tree -/

variable (x : Ext)

theorem mrg_agg (k : AggKind) (w : Ex) (a b : Option Rat) :
    (Ex.agg k w).mrg [.agg a] [.agg b] = [.agg (mergeOpt (aggMerge k true) a b)] := by
  simp [Ex.mrg, Ex.merge]

theorem mrg_avg (v w : Ex) (a b : Option (Rat × Rat)) :
    (Ex.avg v w).mrg [.avg a] [.avg b] =
      [.avg (mergeOpt (fun a b => (a.1 + b.1, a.2 + b.2)) a b)] := by
  simp [Ex.mrg, Ex.merge]

def aggStep (k : AggKind) (c : Option Rat) (upd : Bool) (v : Rat) : Option Rat :=
  if upd then some (aggUpdate k c.isSome (c.getD 0) v) else c

theorem upd_agg {k : AggKind} {w : Ex} (hl : w.isLeafArg = true) (c : Option Rat) (p : Pt) :
    (Ex.agg k w).upd x [.agg c] p = [.agg (aggStep k c (w.argUpd x p) (w.argVal x p))] := by
  cases c <;> cases hu : w.argUpd x p <;>
    simp [Ex.upd, Ex.update, leafArg_update x hl, hu, aggStep]

def avgStep (c : Option (Rat × Rat)) (upd : Bool) (v wt : Rat) : Option (Rat × Rat) :=
  if upd then some ((c.getD (0, 0)).1 + wt, (c.getD (0, 0)).2 + v * wt) else c

theorem upd_avg {v w : Ex} (hl : v.isLeafArg = true) (hw0 : w.width = 0) (c : Option (Rat × Rat)) (p : Pt) :
    (Ex.avg v w).upd x [.avg c] p =
      [.avg (avgStep c (v.argUpd x p) (v.argVal x p) (w.argVal x p))] := by
  cases c <;> cases hu : v.argUpd x p <;>
    simp [Ex.upd, Ex.update, leafArg_update x hl, width0_update x hw0, hu, avgStep]

theorem aggStep_merge (k : AggKind) (s a : Option Rat) (u : Bool) (v : Rat) :
    aggStep k (mergeOpt (aggMerge k true) s a) u v = mergeOpt (aggMerge k true) s (aggStep k a u v) := by
  cases u
  · simp [aggStep]
  · cases s <;> cases a <;> simp [aggStep, mergeOpt]
    · exact aggUpdate_first k _ v
    · exact aggUpdate_merge k _ _ v

theorem avgStep_merge (s a : Option (Rat × Rat)) (u : Bool) (v wt : Rat) :
    avgStep (mergeOpt (fun a b => (a.1 + b.1, a.2 + b.2)) s a) u v wt =
      mergeOpt (fun a b => (a.1 + b.1, a.2 + b.2)) s (avgStep a u v wt) := by
  cases u
  · simp [avgStep]
  · cases s <;> cases a <;> simp [avgStep, mergeOpt] <;> constructor <;> grind

theorem mrg_empty_right : ∀ {e : Ex}, e.valid = true → e.noPtile = true →
    ∀ {st : List Cell}, WF e st → e.mrg st e.empty = st := by
  intro e
  apply Ex.valid_induction (P := fun e => ∀ {st : List Cell}, WF e st → e.mrg st e.empty = st)
  case field => intro n st hw; rw [wf_nil_of_shape_nil rfl hw]; rfl
  case const => intro v st hw; rw [wf_nil_of_shape_nil rfl hw]; rfl
  case agg =>
    intro k w hl _ st hw
    obtain ⟨a, rfl⟩ := wf_agg_inv hl hw
    have he : w.empty = [] := wf_nil_of_shape_nil (leafArg_shape hl) (wf_empty w)
    simp [Ex.empty, he, mrg_agg, mergeOpt_none_right]
  case avg =>
    intro v w _ _ hl _ st hw
    obtain ⟨a, rfl⟩ := wf_avg_inv hl hw
    have he : v.empty = [] := wf_nil_of_shape_nil (leafArg_shape hl) (wf_empty v)
    simp [Ex.empty, he, mrg_avg, mergeOpt_none_right]
  case bin =>
    intro op l r _ _ hvl hpl _ _ ihl ihr st hw
    obtain ⟨sl, sr, rfl, hwl, hwr⟩ := wf_split hw
    simp only [Ex.empty]
    rw [mrg_bin hvl hpl hwl (wf_empty l), ihl hwl, ihr hwr]
  case ifE => exact fun c w _ _ ih => ih
  case bounded => exact fun w lo hi _ _ ih => ih
  case shift => exact fun w off _ _ ih => ih
  case unary => exact fun f w _ _ ih => ih

theorem mrg_comm : ∀ {e : Ex}, e.valid = true → e.noPtile = true →
    ∀ {a b : List Cell}, WF e a → WF e b → e.mrg a b = e.mrg b a := by
  intro e
  apply Ex.valid_induction (P := fun e => ∀ {a b : List Cell}, WF e a → WF e b → e.mrg a b = e.mrg b a)
  case field => intro n a b ha hb; rw [wf_nil_of_shape_nil rfl ha, wf_nil_of_shape_nil rfl hb]
  case const => intro v a b ha hb; rw [wf_nil_of_shape_nil rfl ha, wf_nil_of_shape_nil rfl hb]
  case agg =>
    intro k w hl _ a b ha hb
    obtain ⟨a, rfl⟩ := wf_agg_inv hl ha
    obtain ⟨b, rfl⟩ := wf_agg_inv hl hb
    rw [mrg_agg, mrg_agg, mergeOpt_comm _ (aggMerge_comm k)]
  case avg =>
    intro v w _ _ hl _ a b ha hb
    obtain ⟨a, rfl⟩ := wf_avg_inv hl ha
    obtain ⟨b, rfl⟩ := wf_avg_inv hl hb
    rw [mrg_avg, mrg_avg, mergeOpt_comm]
    intro a b
    simp [Rat.add_comm]
  case bin =>
    intro op l r _ _ hvl hpl _ _ ihl ihr a b ha hb
    obtain ⟨al, ar, rfl, hal, har⟩ := wf_split ha
    obtain ⟨bl, br, rfl, hbl, hbr⟩ := wf_split hb
    rw [mrg_bin hvl hpl hal hbl, mrg_bin hvl hpl hbl hal, ihl hal hbl, ihr har hbr]
  case ifE => exact fun c w _ _ ih => ih
  case bounded => exact fun w lo hi _ _ ih => ih
  case shift => exact fun w off _ _ ih => ih
  case unary => exact fun f w _ _ ih => ih

theorem mrg_empty_empty {e : Ex} (hv : e.valid = true) (hp : e.noPtile = true) :
    e.mrg e.empty e.empty = e.empty := mrg_empty_right hv hp (wf_empty e)

theorem mrg_empty_left {e : Ex} (hv : e.valid = true) (hp : e.noPtile = true) {st : List Cell}
    (h : WF e st) : e.mrg e.empty st = st := by
  rw [mrg_comm hv hp (wf_empty e) h, mrg_empty_right hv hp h]

theorem mrg_assoc : ∀ {e : Ex}, e.valid = true → e.noPtile = true →
    ∀ {a b c : List Cell}, WF e a → WF e b → WF e c →
    e.mrg (e.mrg a b) c = e.mrg a (e.mrg b c) := by
  intro e
  apply Ex.valid_induction (P := fun e => ∀ {a b c : List Cell}, WF e a → WF e b → WF e c →
    e.mrg (e.mrg a b) c = e.mrg a (e.mrg b c))
  case field =>
    intro n a b c ha hb hc
    rw [wf_nil_of_shape_nil rfl ha, wf_nil_of_shape_nil rfl hb, wf_nil_of_shape_nil rfl hc]
    rfl
  case const =>
    intro v a b c ha hb hc
    rw [wf_nil_of_shape_nil rfl ha, wf_nil_of_shape_nil rfl hb, wf_nil_of_shape_nil rfl hc]
    rfl
  case agg =>
    intro k w hl _ a b c ha hb hc
    obtain ⟨a, rfl⟩ := wf_agg_inv hl ha
    obtain ⟨b, rfl⟩ := wf_agg_inv hl hb
    obtain ⟨c, rfl⟩ := wf_agg_inv hl hc
    simp only [mrg_agg]
    rw [mergeOpt_assoc _ (aggMerge_assoc k)]
  case avg =>
    intro v w _ _ hl _ a b c ha hb hc
    obtain ⟨a, rfl⟩ := wf_avg_inv hl ha
    obtain ⟨b, rfl⟩ := wf_avg_inv hl hb
    obtain ⟨c, rfl⟩ := wf_avg_inv hl hc
    simp only [mrg_avg]
    rw [mergeOpt_assoc]
    intro a b c
    simp [Rat.add_assoc]
  case bin =>
    intro op l r _ _ hvl hpl _ _ ihl ihr a b c ha hb hc
    obtain ⟨al, ar, rfl, hal, har⟩ := wf_split ha
    obtain ⟨bl, br, rfl, hbl, hbr⟩ := wf_split hb
    obtain ⟨cl, cr, rfl, hcl, hcr⟩ := wf_split hc
    rw [mrg_bin hvl hpl hal hbl, mrg_bin hvl hpl hbl hcl,
      mrg_bin hvl hpl (mrg_wf hvl hpl hal hbl) hcl,
      mrg_bin hvl hpl hal (mrg_wf hvl hpl hbl hcl),
      ihl hal hbl hcl, ihr har hbr hcr]
  case ifE => exact fun c w _ _ ih => ih
  case bounded => exact fun w lo hi _ _ ih => ih
  case shift => exact fun w off _ _ ih => ih
  case unary => exact fun f w _ _ ih => ih

/-- the step law: updating a merged state = merging with the updated right operand -/
theorem upd_mrg (p : Pt) : ∀ {e : Ex}, e.valid = true → e.noPtile = true →
    ∀ {st a : List Cell}, WF e st → WF e a →
    e.upd x (e.mrg st a) p = e.mrg st (e.upd x a p) := by
  intro e
  apply Ex.valid_induction (P := fun e => ∀ {st a : List Cell}, WF e st → WF e a →
    e.upd x (e.mrg st a) p = e.mrg st (e.upd x a p))
  case field =>
    intro n st a hs ha
    rw [wf_nil_of_shape_nil rfl hs, wf_nil_of_shape_nil rfl ha]
    simp only [Ex.mrg, Ex.merge, Ex.upd, Ex.update]
    cases p.get n <;> rfl
  case const =>
    intro v st a hs ha
    rw [wf_nil_of_shape_nil rfl hs, wf_nil_of_shape_nil rfl ha]
    rfl
  case agg =>
    intro k w hl _ st a hs ha
    obtain ⟨s, rfl⟩ := wf_agg_inv hl hs
    obtain ⟨a, rfl⟩ := wf_agg_inv hl ha
    rw [mrg_agg, upd_agg x hl, upd_agg x hl, mrg_agg, aggStep_merge]
  case avg =>
    intro v w _ _ hl hw0 st a hs ha
    obtain ⟨s, rfl⟩ := wf_avg_inv hl hs
    obtain ⟨a, rfl⟩ := wf_avg_inv hl ha
    rw [mrg_avg, upd_avg x hl hw0, upd_avg x hl hw0, mrg_avg, avgStep_merge]
  case bin =>
    intro op l r _ _ hvl hpl _ _ ihl ihr st a hs ha
    obtain ⟨sl, sr, rfl, hsl, hsr⟩ := wf_split hs
    obtain ⟨al, ar, rfl, hal, har⟩ := wf_split ha
    rw [mrg_bin hvl hpl hsl hal, upd_bin x hvl hpl (mrg_wf hvl hpl hsl hal),
      upd_bin x hvl hpl hal, mrg_bin hvl hpl hsl (upd_wf x hvl hpl hal p),
      ihl hsl hal, ihr hsr har]
  case ifE =>
    intro c w hv hp ih st a hs ha
    show (Ex.ifE c w).upd x (w.mrg st a) p = w.mrg st ((Ex.ifE c w).upd x a p)
    cases hi : p.includes c with
    | true =>
        have h1 : ∀ cs, (Ex.ifE c w).upd x cs p = w.upd x cs p := fun cs => by simp [Ex.upd, Ex.update, hi]
        rw [h1, h1]
        exact ih hs ha
    | false =>
        have h1 : ∀ {cs}, WF w cs → (Ex.ifE c w).upd x cs p = cs := fun hcs => by
          simp [Ex.upd, Ex.update, hi, ← WF.length hcs]
        rw [h1 ha, h1 (mrg_wf hv hp hs ha)]
  case bounded =>
    intro w lo hi _ _ ih st a hs ha
    have h1 : ∀ cs, (Ex.bounded w lo hi).upd x cs p = w.upd x cs p := by
      intro cs
      simp only [Ex.upd, Ex.update]
      split <;> rfl
    rw [h1, h1]
    exact ih hs ha
  case shift => exact fun w off _ _ ih => ih
  case unary => exact fun f w _ _ ih => ih

theorem foldl_upd_wf {e : Ex} (hv : e.valid = true) (hp : e.noPtile = true) (ps : List Pt) :
    ∀ {st : List Cell}, WF e st → WF e (ps.foldl (e.upd x) st) := by
  induction ps with
  | nil => intro st h; exact h
  | cons p ps ih => intro st h; exact ih (upd_wf x hv hp h p)

theorem acc_wf {e : Ex} (hv : e.valid = true) (hp : e.noPtile = true) (ps : List Pt) :
    WF e (e.acc x ps) := foldl_upd_wf x hv hp ps (wf_empty e)

/-- merging `st` with the accumulation of `ps` (from any well-formed `a`) = continuing to
    accumulate `ps` on top of `st ⊕ a` -/
theorem mrg_foldl {e : Ex} (hv : e.valid = true) (hp : e.noPtile = true) (ps : List Pt) :
    ∀ {st a : List Cell}, WF e st → WF e a →
    e.mrg st (ps.foldl (e.upd x) a) = ps.foldl (e.upd x) (e.mrg st a) := by
  induction ps with
  | nil => intro st a _ _; rfl
  | cons p ps ih =>
      intro st a hs ha
      simp only [List.foldl_cons]
      rw [ih hs (upd_wf x hv hp ha p), upd_mrg x p hv hp hs ha]

theorem mrg_acc_append {e : Ex} (hv : e.valid = true) (hp : e.noPtile = true) (ps₁ ps₂ : List Pt) :
    e.mrg (e.acc x ps₁) (e.acc x ps₂) = e.acc x (ps₁ ++ ps₂) := by
  have h1 := mrg_foldl x hv hp ps₂ (acc_wf x hv hp ps₁) (wf_empty e)
  rw [mrg_empty_right hv hp (acc_wf x hv hp ps₁)] at h1
  simpa [Ex.acc, List.foldl_append] using h1

/-- n-way homomorphism: merging the accumulations of any number of batches = accumulating all
    points of all batches into one state -/
theorem nway_merge {e : Ex} (hv : e.valid = true) (hp : e.noPtile = true) (pss : List (List Pt)) :
    (pss.map (e.acc x)).foldl e.mrg e.empty = e.acc x pss.flatten := by
  have key : ∀ (pss : List (List Pt)) (pre : List Pt),
      (pss.map (e.acc x)).foldl e.mrg (e.acc x pre) = e.acc x (pre ++ pss.flatten) := by
    intro pss
    induction pss with
    | nil => intro pre; simp
    | cons ps r ih =>
      intro pre
      simp only [List.map_cons, List.foldl_cons, List.flatten_cons]
      rw [mrg_acc_append x hv hp, ih (pre ++ ps), List.append_assoc]
  exact key pss []

theorem acc_perm {e : Ex} (hv : e.valid = true) (hp : e.noPtile = true) {ps₁ ps₂ : List Pt}
    (h : ps₁.Perm ps₂) : e.acc x ps₁ = e.acc x ps₂ := by
  induction h with
  | nil => rfl
  | @cons p l₁ l₂ _ ih =>
    show e.acc x ([p] ++ l₁) = e.acc x ([p] ++ l₂)
    rw [← mrg_acc_append x hv hp, ← mrg_acc_append x hv hp, ih]
  | swap p q l =>
    show e.acc x ([q] ++ [p] ++ l) = e.acc x ([p] ++ [q] ++ l)
    rw [← mrg_acc_append x hv hp, ← mrg_acc_append x hv hp, ← mrg_acc_append x hv hp, ← mrg_acc_append x hv hp,
      mrg_comm hv hp (acc_wf x hv hp [q]) (acc_wf x hv hp [p])]
  | trans _ _ ih₁ ih₂ => exact ih₁.trans ih₂

end Zeno
