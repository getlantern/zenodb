/-
One column under alters and restarts (Model/Alter.lean, `Col.astep`): refinement to the raw-point
spec `AColSpec`.  The invariant is `ColInvB` of Lemmas/Column.lean with the live window taken
relative to the highest clock ever reached (`hwm`) — a restart puts the clock back to zero, so
"live" can no longer be read off the current clock.
-/
import ZenoModel.Lemmas.ColumnSpec
import ZenoModel.Model.Alter
namespace Zeno

/-- `T` is a period end on the grid that has never been expired: it ends after
    `hwm − retention` -/
def LiveH (cfg : ColCfg) (hwm T : Int) : Prop := T % cfg.res = 0 ∧ T > hwm - cfg.retention

/-- `ColInvB` with the bound read off the spec's high-water mark -/
abbrev AColInv (x : Ext) (cfg : ColCfg) (c : Col) (a : AColSpec) : Prop := ColInvB x cfg c a.s a.hwm

def AOpsPos : List AColOp → Prop
  | [] => True
  | .base op :: r => OpsPos [op] ∧ AOpsPos r
  | _ :: r => AOpsPos r

/-- the invariant survives whatever leaves the two series and the spec's cells alone: the clocks may
    move together and the high-water mark may rise (fewer periods are then claimed) -/
theorem AColInv.mono {x : Ext} {cfg : ColCfg} {c c' : Col} {a a' : AColSpec} (inv : AColInv x cfg c a)
    (hf : c'.file = c.file) (hm : c'.mem = c.mem) (hc : a'.s.cells = a.s.cells)
    (hnow : c'.now = a'.s.now) (hnn : 0 ≤ c'.now) (hle : c'.now ≤ a'.hwm) (hh : a.hwm ≤ a'.hwm) :
    AColInv x cfg c' a' := by
  refine ⟨hnow, hnn, hle, hf ▸ inv.fileOk, hm ▸ inv.memOk, hf ▸ inv.fileWF, hm ▸ inv.memWF,
    fun T => hc ▸ inv.specWF T, fun T hl hT0 => ?_⟩
  rw [hf, hm, hc]
  exact inv.agree T ⟨hl.1, by have := hl.2; omega⟩ hT0

/-- a column that holds nothing at clock `n` (never written, or just added by an alter) refines
    the empty spec -/
theorem acolInv_fresh (x : Ext) (cfg : ColCfg) (hv : cfg.e.valid = true) (hp : cfg.e.noPtile = true)
    (n h : Int) (hn : 0 ≤ n) (hnh : n ≤ h) :
    AColInv x cfg { now := n } { s := { now := n, cells := fun _ => cfg.e.empty }, hwm := h } := by
  refine ⟨rfl, hn, hnh, trivial, trivial, trivial, trivial, fun _ => wf_empty _, ?_⟩
  intro T _ _
  simp [Sq.at, mrg_empty_empty hv hp]

theorem acolInv_flush (x : Ext) (cfg : ColCfg) (hv : cfg.e.valid = true) (hp : cfg.e.noPtile = true)
    (hres : 0 < cfg.res) (c : Col) (a : AColSpec) (inv : AColInv x cfg c a) (raw : Bool) :
    AColInv x cfg (c.step x cfg (.flush raw)) a := by
  have h : ColInvB x cfg _ a.s (max a.hwm a.s.now) :=
    colInvB_step x cfg hv hp hres c a.s a.hwm inv (.flush raw) trivial
  rwa [Int.max_eq_left (inv.now_eq ▸ inv.now_le)] at h

theorem acolInv_step (x : Ext) (cfg : ColCfg) (hv : cfg.e.valid = true) (hp : cfg.e.noPtile = true)
    (hres : 0 < cfg.res) (c : Col) (a : AColSpec) (inv : AColInv x cfg c a) (op : AColOp)
    (hop : AOpsPos [op]) : AColInv x cfg (c.astep x cfg op) (a.step x cfg op) := by
  cases op with
  | alterKeep b raw =>
    cases b with
    | true => exact acolInv_flush x cfg hv hp hres c a inv raw
    | false => exact inv
  | reopen raw =>
    exact (acolInv_flush x cfg hv hp hres c a inv raw).mono rfl rfl rfl rfl (Int.le_refl 0)
      (Int.le_trans inv.now_nonneg inv.now_le) (Int.le_refl _)
  | base op => exact colInvB_step x cfg hv hp hres c a.s a.hwm inv op hop.1

theorem aopsPos_head {op : AColOp} {r : List AColOp} (h : AOpsPos (op :: r)) : AOpsPos [op] ∧ AOpsPos r := by
  cases op <;> simp_all [AOpsPos]

theorem acolInv_foldl (x : Ext) (cfg : ColCfg) (hv : cfg.e.valid = true) (hp : cfg.e.noPtile = true)
    (hres : 0 < cfg.res) (ops : List AColOp) :
    ∀ (c : Col) (a : AColSpec), AColInv x cfg c a → AOpsPos ops →
      AColInv x cfg (Col.arun x cfg c ops) (AColSpec.run x cfg a ops) := by
  induction ops with
  | nil => intro c a inv _; exact inv
  | cons op r ih =>
    intro c a inv hpos
    obtain ⟨h1, h2⟩ := aopsPos_head hpos
    exact ih _ _ (acolInv_step x cfg hv hp hres c a inv op h1) h2

/-- what a memstore-inclusive scan returns on a never-expired period is the spec's state -/
theorem aview_eq_spec (x : Ext) (cfg : ColCfg) (hv : cfg.e.valid = true) (hp : cfg.e.noPtile = true)
    (hres : 0 < cfg.res) {c : Col} {a : AColSpec} (inv : AColInv x cfg c a) (T : Int)
    (hl : LiveH cfg a.hwm T) (hT0 : 0 < T) :
    ((c.view cfg true).at cfg.e cfg.res T) = a.s.cells T := by
  simp only [Col.view, if_true]
  have hgt : T > c.now - cfg.retention := by have := hl.2; have := inv.now_le; omega
  rw [sem_merge_live hv hp hres c.file c.mem inv.fileOk inv.memOk inv.fileWF inv.memWF _ T hl.1 hgt]
  exact inv.agree T hl hT0

/-- the spec does not see alters -/
theorem aspec_erase (x : Ext) (cfg : ColCfg) (ops : List AColOp) :
    ∀ a : AColSpec, AColSpec.run x cfg a ops = AColSpec.run x cfg a (eraseAlters ops) := by
  induction ops with
  | nil => intro a; rfl
  | cons op r ih =>
    intro a
    cases op <;> exact ih _

theorem aopsPos_erase : ∀ {ops : List AColOp}, AOpsPos ops → AOpsPos (eraseAlters ops)
  | [], _ => trivial
  | .alterKeep _ _ :: r, h => aopsPos_erase (ops := r) h
  | .base _ :: r, h => ⟨h.1, aopsPos_erase (ops := r) h.2⟩
  | .reopen _ :: r, h => aopsPos_erase (ops := r) h

theorem aopsPos_append : ∀ {p q : List AColOp}, AOpsPos p → AOpsPos q → AOpsPos (p ++ q)
  | [], _, _, hq => hq
  | .alterKeep _ _ :: r, _, hp, hq => aopsPos_append (p := r) hp hq
  | .base _ :: r, _, hp, hq => ⟨hp.1, aopsPos_append (p := r) hp.2 hq⟩
  | .reopen _ :: r, _, hp, hq => aopsPos_append (p := r) hp hq

/-- the spec's state of a period: the rows of accepted points that round up to it, accumulated
    in arrival order on top of what was there -/
theorem aspec_foldl_cells (x : Ext) (cfg : ColCfg) (T : Int) (ops : List AColOp) :
    ∀ a : AColSpec, (AColSpec.run x cfg a ops).s.cells T =
      (rowsForA cfg T a.s.now ops).foldl (cfg.e.upd x) (a.s.cells T) := by
  induction ops with
  | nil => intro a; rfl
  | cons op r ih =>
    intro a
    simp only [AColSpec.run, List.foldl_cons]
    have ih' := ih (a.step x cfg op)
    simp only [AColSpec.run] at ih'
    rw [ih']
    cases op with
    | alterKeep b raw => rfl
    | reopen raw => rfl
    | base o =>
      cases o with
      | ingest ts pt =>
        simp only [AColSpec.step, ColSpec.step, rowsForA]
        split
        · by_cases hP : T = roundUp ts cfg.res
          · simp [hP]
          · simp [hP, Ne.symm hP]
        · rfl
      | tick ts =>
        simp only [AColSpec.step, ColSpec.step, rowsForA]
        split <;> rfl
      | late ts => rfl
      | flush raw => rfl

/-- Refinement over a history.  From a column that refines a spec, after any history of inserts,
    flushes, restarts and alters that retain the field, a memstore-inclusive scan returns on every
    never-expired period the spec's state with the rows the history accepts accumulated on top. -/
theorem aview_run (x : Ext) (cfg : ColCfg) (hv : cfg.e.valid = true) (hp : cfg.e.noPtile = true)
    (hres : 0 < cfg.res) {c : Col} {a : AColSpec} (inv : AColInv x cfg c a) (ops : List AColOp)
    (hpos : AOpsPos ops) (T : Int) (hl : LiveH cfg (AColSpec.run x cfg a ops).hwm T) (hT0 : 0 < T) :
    ((Col.arun x cfg c ops).view cfg true).at cfg.e cfg.res T =
      (rowsForA cfg T a.s.now ops).foldl (cfg.e.upd x) (a.s.cells T) := by
  rw [aview_eq_spec x cfg hv hp hres (acolInv_foldl x cfg hv hp hres ops c a inv hpos) T hl hT0,
    aspec_foldl_cells]

/-- the spec a column starts from -/
def spec0 (cfg : ColCfg) : AColSpec := { s := ColSpec.init cfg, hwm := 0 }

/-- highest clock a history reaches -/
def hwmOf (x : Ext) (cfg : ColCfg) (ops : List AColOp) : Int := (AColSpec.run x cfg (spec0 cfg) ops).hwm

theorem acolInv_run (x : Ext) (cfg : ColCfg) (hv : cfg.e.valid = true) (hp : cfg.e.noPtile = true) (hres : 0 < cfg.res)
    (ops : List AColOp) (hpos : AOpsPos ops) :
    AColInv x cfg (Col.arun x cfg {} ops) (AColSpec.run x cfg (spec0 cfg) ops) :=
  acolInv_foldl x cfg hv hp hres ops {} (spec0 cfg)
    (acolInv_fresh x cfg hv hp 0 0 (Int.le_refl 0) (Int.le_refl 0)) hpos

end Zeno
