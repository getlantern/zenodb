/-
C11 helper lemmas about the textual view of `planClusterNonPushdown`.
-/
import ZenoModel.Model.Plan

namespace Zeno.PlanLemmas
open Zeno Zeno.Plan

/-- the partition-side statement as syntax: stripped statement + synthesised GROUP BY -/
def partSyn (s : QSyn) (i : RwInfo) (crosstabArgs : Option (List Char)) : QSyn :=
  let parts := synthGroupBy i (concatForCrosstab crosstabArgs)
  { stripSyn s i with groupBy := if parts.isEmpty then none else some (joinWith tComma parts) }

theorem render_stripSyn (s : QSyn) (i : RwInfo) : render (stripSyn s i) = renderHead (stripSyn s i) := by
  simp [render, renderTail, clause, stripSyn]

/-- comparison modulo blanks (the rewritten text is re-parsed, blanks between tokens vanish) -/
def despace (t : List Char) : List Char := t.filter (fun c => c != ' ')

theorem despace_append (a b : List Char) : despace (a ++ b) = despace a ++ despace b :=
  List.filter_append ..

theorem despace_nil : despace [] = [] := rfl

theorem despace_space (a : List Char) : despace (' ' :: a) = despace a := rfl

theorem despace_withGroupBy {t t' : List Char} (h : despace t = despace t') (p : List (List Char)) :
    despace (withGroupBy t p) = despace (withGroupBy t' p) := by
  unfold withGroupBy
  split
  · exact h
  · simp only [despace_append, h]

/-- the searches of the text surgery hit the outer clauses: the first "group by " is the
    outer GROUP BY, the first "from <table>" the outer FROM (only needed with HAVING), and
    the CROSSTAB scan returns the arguments of the GROUP BY's CROSSTAB call -/
structure OuterClauseFirst (s : QSyn) (i : RwInfo) (ct : Option (List Char)) : Prop where
  gbText : ∃ g, s.groupBy = some g
  gb : indexOf tGroupBy (lower (render s)) = some ((renderHead s).length + 1)
  frm : i.hasHaving = true →
    indexOf (tFrom ++ lower s.frm) (lower (render s)) = some ((tSelect ++ s.sel).length + 1)
  ctab : concatForCrosstabPre (render s) = concatForCrosstab ct

end Zeno.PlanLemmas
