/-
End-to-end: the accepted raw rows of a store script.  `tableRowsFor cfg key T 0 ops` (StoreProj) is the
(key, period) slice `keyPeriodPts` of `acceptedRows cfg true (pointsOf ops)` (QuerySpec), and the clock
`acceptedRows` threads over the points is the store's clock — flushes touch neither.

Then the algebra of buckets: (key, period) groups that accumulate to the empty state can be removed
from a bucket without changing its accumulation (`acc` is a commutative-monoid fold).
-/
import ZenoModel.Lemmas.StoreProjSpec
import ZenoModel.Lemmas.SubMergeSemSpec
namespace Zeno

/-- the points of a store script, in order (its flushes erased) -/
def pointsOf : List StoreOp → List RawPoint
  | [] => []
  | .ingest p :: r => p :: pointsOf r
  | .flush _ :: r => pointsOf r

/-- the accepted rows one stored point stands for -/
def accRowsOf (cfg : TableCfg) (dup : Bool) (p : RawPoint) : List AccRow :=
  (pointRowsD dup p).map (fun vals =>
    ({ key := reslice cfg p.dims, period := roundUp p.ts cfg.res, pt := mkPt p vals } : AccRow))

/-- `acceptedRows`, first component, as a recursion from a given clock -/
def accRowsFrom (cfg : TableCfg) (dup : Bool) : Int → List RawPoint → List AccRow
  | _, [] => []
  | now, p :: ps =>
      (if ptStored cfg now p then accRowsOf cfg dup p else []) ++ accRowsFrom cfg dup (ptNow cfg now p) ps

/-- `acceptedRows`, second component: the clock after the points -/
def clockFrom (cfg : TableCfg) : Int → List RawPoint → Int
  | now, [] => now
  | now, p :: ps => clockFrom cfg (ptNow cfg now p) ps

/-- the step function of `acceptedRows` (a literal copy; `acceptedRows_foldl` is `rfl`) -/
def accStep (cfg : TableCfg) (dup : Bool) (acc : List AccRow × Int) (p : RawPoint) : List AccRow × Int :=
  let (rows, now) := acc
  if p.ts < now - cfg.retention then acc
  else if !p.whereOk then acc
  else
    let now := max now p.ts
    if p.panics then (rows, now)
    else
      let key := reslice cfg p.dims
      let period := roundUp p.ts cfg.res
      (rows ++ (pointRowsD dup p).map (fun vals => { key := key, period := period, pt := mkPt p vals }), now)

theorem acceptedRows_foldl (cfg : TableCfg) (dup : Bool) (ps : List RawPoint) :
    acceptedRows cfg dup ps = ps.foldl (accStep cfg dup) ([], 0) := rfl

theorem accStep_eq (cfg : TableCfg) (dup : Bool) (rows : List AccRow) (now : Int) (p : RawPoint) :
    accStep cfg dup (rows, now) p =
      (rows ++ (if ptStored cfg now p then accRowsOf cfg dup p else []), ptNow cfg now p) := by
  unfold accStep ptStored ptNow accRowsOf
  by_cases hold : p.ts < now - cfg.retention
  · simp [hold]
  by_cases hw : p.whereOk = false
  · simp [hold, hw]
  have hw' : p.whereOk = true := by simpa using hw
  by_cases hpan : p.panics = true
  · simp [hold, hw', hpan]
  have hpan' : p.panics = false := by simpa using hpan
  simp [hold, hw', hpan']

theorem accStep_foldl (cfg : TableCfg) (dup : Bool) (ps : List RawPoint) :
    ∀ (rows : List AccRow) (now : Int), ps.foldl (accStep cfg dup) (rows, now) =
      (rows ++ accRowsFrom cfg dup now ps, clockFrom cfg now ps) := by
  induction ps with
  | nil => intro rows now; simp [accRowsFrom, clockFrom]
  | cons p ps ih =>
    intro rows now
    rw [List.foldl_cons, accStep_eq, ih]
    simp [accRowsFrom, clockFrom, List.append_assoc]

/-- `acceptedRows` without its accumulator -/
theorem acceptedRows_eq (cfg : TableCfg) (dup : Bool) (ps : List RawPoint) :
    acceptedRows cfg dup ps = (accRowsFrom cfg dup 0 ps, clockFrom cfg 0 ps) := by
  rw [acceptedRows_foldl, accStep_foldl]; simp

/-- the clock of the store script is the clock `acceptedRows` reaches on its points: flushes do
    not move it -/
theorem nowAfter_eq_clockFrom (cfg : TableCfg) (ops : List StoreOp) :
    ∀ now, nowAfter cfg now ops = clockFrom cfg now (pointsOf ops) := by
  induction ops with
  | nil => intro now; rfl
  | cons op r ih =>
    intro now
    cases op with
    | ingest p => simp only [nowAfter, pointsOf, clockFrom, ih]
    | flush s => simp only [nowAfter, pointsOf, ih]

theorem pointsOf_eraseFlush (ops : List StoreOp) : pointsOf (eraseFlush ops) = pointsOf ops := by
  induction ops with
  | nil => rfl
  | cons op r ih => cases op <;> simp only [eraseFlush, pointsOf, ih]

theorem keyPeriodPts_append (A B : List AccRow) (adj : AccRow → Pt) (κ : Key) (t : Int) :
    keyPeriodPts (A ++ B) adj κ t = keyPeriodPts A adj κ t ++ keyPeriodPts B adj κ t := by
  simp [keyPeriodPts, List.filter_append]

theorem filter_filter_of_imp {α : Type} (p r : α → Bool) (l : List α) (h : ∀ a ∈ l, p a = true → r a = true) :
    (l.filter r).filter p = l.filter p := by
  rw [List.filter_filter]
  apply List.filter_congr
  intro a ha
  cases hp : p a with
  | false => rfl
  | true => rw [h a ha hp]; rfl

/-- the rows of one point all carry the point's group key and period -/
theorem keyPeriodPts_accRowsOf (cfg : TableCfg) (dup : Bool) (p : RawPoint) (κ : Key) (t : Int) :
    keyPeriodPts (accRowsOf cfg dup p) (·.pt) κ t =
      if (reslice cfg p.dims == κ) && decide (roundUp p.ts cfg.res = t)
      then (pointRowsD dup p).map (mkPt p) else [] := by
  unfold keyPeriodPts accRowsOf
  have hper : (roundUp p.ts cfg.res == t) = decide (roundUp p.ts cfg.res = t) := by
    by_cases h : roundUp p.ts cfg.res = t <;> simp [h]
  rw [List.filter_map, List.map_map]
  cases hc : (reslice cfg p.dims == κ) && decide (roundUp p.ts cfg.res = t) with
  | false => simp [Function.comp_def, hper, hc]
  | true =>
    simp only [Function.comp_def, hper, hc, if_true]
    rw [List.filter_eq_self.mpr (fun _ _ => rfl)]

/-- the tie: the table-level spec of StoreProj is the (key, period) slice of `acceptedRows` -/
theorem tableRowsFor_eq_keyPeriodPts (cfg : TableCfg) (key : Key) (T : Int) (ops : List StoreOp) :
    ∀ now, tableRowsFor cfg key T now ops =
      keyPeriodPts (accRowsFrom cfg true now (pointsOf ops)) (·.pt) key T := by
  induction ops with
  | nil => intro now; rfl
  | cons op r ih =>
    intro now
    cases op with
    | flush s => simp only [tableRowsFor, pointsOf]; exact ih now
    | ingest p =>
      simp only [tableRowsFor, pointsOf, accRowsFrom]
      rw [keyPeriodPts_append, ih]
      congr 1
      by_cases hs : ptStored cfg now p = true
      · rw [if_pos hs, keyPeriodPts_accRowsOf]
        simp only [hs, Bool.true_and]
        rfl
      · simp [hs, keyPeriodPts]

theorem accRowsFrom_period (cfg : TableCfg) (hres : 0 < cfg.res) (dup : Bool) (ps : List RawPoint) :
    ∀ now, ∀ a ∈ accRowsFrom cfg dup now ps, a.period % cfg.res = 0 := by
  induction ps with
  | nil => intro now a ha; simp [accRowsFrom] at ha
  | cons p ps ih =>
    intro now a ha
    simp only [accRowsFrom, List.mem_append] at ha
    rcases ha with ha | ha
    · split at ha
      · unfold accRowsOf at ha
        obtain ⟨v, _, rfl⟩ := List.mem_map.mp ha
        exact roundUp_mod hres
      · simp at ha
    · exact ih _ a ha

theorem acceptedRows_period (cfg : TableCfg) (hres : 0 < cfg.res) (dup : Bool) (ps : List RawPoint) :
    ∀ a ∈ (acceptedRows cfg dup ps).1, a.period % cfg.res = 0 := by
  rw [acceptedRows_eq]
  exact accRowsFrom_period cfg hres dup ps 0

/-- `c` has the key and period of `b` (the predicate `keyPeriodPts` filters by) -/
def sameKP (b c : AccRow) : Bool := c.key == b.key && c.period == b.period

theorem sameKP_iff (b c : AccRow) : sameKP b c = true ↔ c.key = b.key ∧ c.period = b.period := by
  simp [sameKP]

theorem sameKP_congr {c d : AccRow} (h : sameKP c d = true) (b : AccRow) : sameKP b d = sameKP b c := by
  obtain ⟨h1, h2⟩ := (sameKP_iff c d).mp h
  unfold sameKP
  rw [h1, h2]

theorem keyPeriodPts_eq_sameKP (A : List AccRow) (adj : AccRow → Pt) (a : AccRow) :
    keyPeriodPts A adj a.key a.period = (A.filter (sameKP a)).map adj := rfl

theorem acc_split (x : Ext) {e : Ex} (hv : e.valid = true) (hp : e.noPtile = true) (adj : AccRow → Pt)
    (L : List AccRow) (p : AccRow → Bool) :
    e.acc x (L.map adj) =
      e.mrg (e.acc x ((L.filter p).map adj)) (e.acc x ((L.filter (fun a => !p a)).map adj)) := by
  rw [mrg_acc_append x hv hp, ← List.map_append]
  exact acc_perm x hv hp (List.Perm.map adj (List.filter_append_perm p L).symm)

/-- a list all of whose (key, period) groups accumulate to the empty state accumulates to the
    empty state: split off the group of the head, the rest has the same groups but this one -/
theorem acc_groups_empty (x : Ext) {e : Ex} (hv : e.valid = true) (hp : e.noPtile = true) (adj : AccRow → Pt)
    (B : List AccRow) (hB : ∀ b ∈ B, e.acc x ((B.filter (sameKP b)).map adj) = e.empty) :
    e.acc x (B.map adj) = e.empty := by
  suffices ∀ (n : Nat) (B : List AccRow), B.length ≤ n →
      (∀ b ∈ B, e.acc x ((B.filter (sameKP b)).map adj) = e.empty) → e.acc x (B.map adj) = e.empty from
    this _ B (Nat.le_refl _) hB
  intro n
  induction n with
  | zero =>
    intro B hl _
    rw [List.length_eq_zero_iff.mp (Nat.le_zero.mp hl)]
    rfl
  | succ n ih =>
    intro B hl hB
    cases B with
    | nil => rfl
    | cons b B' =>
      rw [acc_split x hv hp adj (b :: B') (sameKP b), hB b (by simp), mrg_empty_left hv hp (acc_wf x hv hp _)]
      apply ih
      · have hlt : ((b :: B').filter (fun a => !sameKP b a)).length < (b :: B').length :=
          List.length_filter_lt_length_iff_exists.mpr ⟨b, by simp, by simp [sameKP]⟩
        omega
      · intro c hc
        obtain ⟨hc1, hc2⟩ := List.mem_filter.mp hc
        rw [filter_filter_of_imp]
        · exact hB c hc1
        · intro d _ hd
          rw [sameKP_congr hd b]
          exact hc2

/-- removing from `L` the rows of "bad" keys, all of whose (key, period) groups accumulate to the
    empty state, does not change the accumulation -/
theorem acc_drop_empty_groups (x : Ext) {e : Ex} (hv : e.valid = true) (hp : e.noPtile = true)
    (adj : AccRow → Pt) (L : List AccRow) (good : AccRow → Bool)
    (hgk : ∀ a b : AccRow, a.key = b.key → good a = good b)
    (hempty : ∀ a ∈ L, good a = false → e.acc x ((L.filter (sameKP a)).map adj) = e.empty) :
    e.acc x (L.map adj) = e.acc x ((L.filter good).map adj) := by
  rw [acc_split x hv hp adj L good]
  have hbad : e.acc x ((L.filter (fun a => !good a)).map adj) = e.empty := by
    apply acc_groups_empty x hv hp adj
    intro b hb
    obtain ⟨hb1, hb2⟩ := List.mem_filter.mp hb
    rw [filter_filter_of_imp]
    · exact hempty b hb1 (by simpa using hb2)
    · intro d _ hd
      rw [hgk d b ((sameKP_iff b d).mp hd).1]
      exact hb2
  rw [hbad, mrg_empty_right hv hp (acc_wf x hv hp _)]

/-- accepted rows of keys that fail `good`, whose (key, period) groups inside the window all
    accumulate to the empty state, can be dropped from the spec's bucket -/
theorem specBucket_drop_uncovered (x : Ext) {e : Ex} (hv : e.valid = true) (hp : e.noPtile = true)
    (q : Query) (A : List AccRow) (adj : AccRow → Pt) (lo hi P : Int) (k : Key) (T : Int)
    (good : AccRow → Bool) (hgk : ∀ a b : AccRow, a.key = b.key → good a = good b)
    (hempty : ∀ a ∈ A, lo < a.period ∧ a.period ≤ hi → good a = false →
      e.acc x (keyPeriodPts A adj a.key a.period) = e.empty) :
    e.acc x (specBucketPts q A adj lo hi P k T) =
      e.acc x (specBucketPts q (A.filter good) adj lo hi P k T) := by
  unfold specBucketPts
  have hcomm : ((A.filter good).filter (fun r => decide (lo < r.period ∧ r.period ≤ hi))).filter
        (fun r => (gSlice q r.key, hi - ((hi - r.period) / P) * P) == (k, T)) =
      (((A.filter (fun r => decide (lo < r.period ∧ r.period ≤ hi))).filter
        (fun r => (gSlice q r.key, hi - ((hi - r.period) / P) * P) == (k, T)))).filter good := by
    simp only [List.filter_filter]
    apply List.filter_congr
    intro a _
    cases good a <;> simp
  rw [hcomm]
  apply acc_drop_empty_groups x hv hp adj _ good hgk
  intro a ha hga
  obtain ⟨ha1, hbk⟩ := List.mem_filter.mp ha
  obtain ⟨haA, hwin⟩ := List.mem_filter.mp ha1
  -- the bucket holds the whole (key, period) group of its member `a`
  rw [filter_filter_of_imp, filter_filter_of_imp, ← keyPeriodPts_eq_sameKP]
  · exact hempty a haA (by simpa using hwin) hga
  · intro d _ hd
    obtain ⟨h1, h2⟩ := (sameKP_iff a d).mp hd
    rw [h2]
    exact hwin
  · intro d _ hd
    obtain ⟨h1, h2⟩ := (sameKP_iff a d).mp hd
    rw [h1, h2]
    exact hbk

end Zeno
