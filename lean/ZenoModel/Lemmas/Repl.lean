/-
Helper lemmas and the inductive invariant of the replication protocol (Model/Repl.lean).
The per-event preservation lemmas are in Lemmas/ReplSteps.lean; the property theorems in
Props/C12.lean.
-/
import ZenoModel.Model.Repl

namespace Zeno.Repl

/-! ## lists of WAL entries -/

theorem le_top {W : List Entry} {e : Entry} (h : e ∈ W) : e.off ≤ top W := by
  induction W with
  | nil => cases h
  | cons x xs ih =>
    simp only [top, List.foldr_cons]
    rcases List.mem_cons.mp h with rfl | h'
    · exact Nat.le_max_left _ _
    · exact Nat.le_trans (ih h') (Nat.le_max_right _ _)

theorem top_le {W : List Entry} {b : Nat} (h : ∀ x ∈ W, x.off ≤ b) : top W ≤ b := by
  induction W with
  | nil => exact Nat.zero_le b
  | cons x xs ih =>
    exact Nat.max_le.mpr ⟨h x List.mem_cons_self, ih fun y hy => h y (List.mem_cons_of_mem x hy)⟩

theorem top_append (W : List Entry) (e : Entry) : top (W ++ [e]) = max (top W) e.off := by
  induction W with
  | nil => simp [top]
  | cons x xs ih =>
    have : top (x :: xs ++ [e]) = max x.off (top (xs ++ [e])) := by simp [top]
    rw [this, ih]
    have : top (x :: xs) = max x.off (top xs) := by simp [top]
    rw [this]
    omega

theorem top_le_append (W : List Entry) (e : Entry) : top W ≤ top (W ++ [e]) := by
  rw [top_append]; omega

theorem minList_le {xs : List Nat} {x : Nat} (h : x ∈ xs) : minList xs ≤ x := by
  induction xs with
  | nil => cases h
  | cons y ys ih =>
    cases ys with
    | nil =>
      simp only [List.mem_singleton] at h
      subst h
      simp [minList]
    | cons z zs =>
      simp only [minList]
      rcases List.mem_cons.mp h with rfl | h'
      · exact Nat.min_le_left _ _
      · exact Nat.le_trans (Nat.min_le_right _ _) (ih h')

theorem minList_le_of_all_le {xs : List Nat} {b : Nat} (h : ∀ x ∈ xs, x ≤ b) : minList xs ≤ b := by
  cases xs with
  | nil => simp [minList]
  | cons y ys =>
    have := minList_le (xs := y :: ys) (x := y) (by simp)
    exact Nat.le_trans this (h y (by simp))

theorem nextEntry_mem {W : List Entry} {c : Nat} {e : Entry} (h : nextEntry W c = some e) :
    e ∈ W ∧ c < e.off := by
  unfold nextEntry at h
  have h1 := List.mem_of_find?_eq_some h
  have h2 := List.find?_some h
  exact ⟨h1, by simpa using h2⟩

/-- with increasing offsets the reader's next entry is the first one after the cursor -/
theorem nextEntry_first {W : List Entry} (hs : W.Pairwise (fun a b => a.off < b.off)) {c : Nat}
    {e : Entry} (h : nextEntry W c = some e) : ∀ e' ∈ W, c < e'.off → e.off ≤ e'.off := by
  induction W with
  | nil => intro e' he'; cases he'
  | cons x xs ih =>
    intro e' he' hc
    unfold nextEntry at h
    rw [List.find?_cons] at h
    rw [List.pairwise_cons] at hs
    by_cases hx : c < x.off
    · simp only [hx, decide_true] at h
      cases h
      rcases List.mem_cons.mp he' with rfl | h'
      · exact Nat.le_refl _
      · exact Nat.le_of_lt (hs.1 e' h')
    · simp only [hx, decide_false] at h
      rcases List.mem_cons.mp he' with rfl | h'
      · exact absurd hc hx
      · exact ih hs.2 h e' h' hc

theorem entryAt_mem {W : List Entry} {o : Nat} {e : Entry} (h : entryAt W o = some e) :
    e ∈ W ∧ e.off = o := by
  unfold entryAt at h
  have h1 := List.mem_of_find?_eq_some h
  have h2 := List.find?_some h
  exact ⟨h1, by simpa using h2⟩

theorem off_inj {W : List Entry} (hs : W.Pairwise (fun a b => a.off < b.off)) {a b : Entry}
    (ha : a ∈ W) (hb : b ∈ W) (h : a.off = b.off) : a = b := by
  induction W with
  | nil => cases ha
  | cons x xs ih =>
    rw [List.pairwise_cons] at hs
    rcases List.mem_cons.mp ha with rfl | ha' <;> rcases List.mem_cons.mp hb with rfl | hb'
    · rfl
    · have := hs.1 b hb'; omega
    · have := hs.1 a ha'; omega
    · exact ih hs.2 ha' hb'

theorem sorted_append {W : List Entry} (hs : W.Pairwise (fun a b => a.off < b.off)) {e : Entry}
    (h : top W < e.off) : (W ++ [e]).Pairwise (fun a b => a.off < b.off) := by
  rw [List.pairwise_append]
  refine ⟨hs, by simp, ?_⟩
  intro a ha b hb
  simp only [List.mem_singleton] at hb
  subst hb
  exact Nat.lt_of_le_of_lt (le_top ha) h

/-! ## reading a component that an event has cleared at some indices -/

theorem of_ite_false {c : Prop} [Decidable c] {b : Bool} (h : (if c then false else b) = true) :
    ¬c ∧ b = true := by
  split at h
  · cases h
  · exact ⟨‹_›, h⟩

theorem of_ite_none {α : Type} {c : Prop} [Decidable c] {o : Option α} {x : α}
    (h : (if c then none else o) = some x) : ¬c ∧ o = some x := by
  split at h
  · cases h
  · exact ⟨‹_›, h⟩

theorem of_mem_ite_nil {α : Type} {c : Prop} [Decidable c] {xs : List α} {x : α}
    (h : x ∈ if c then [] else xs) : ¬c ∧ x ∈ xs := by
  split at h
  · cases h
  · exact ⟨‹_›, h⟩

/-! ## routing bookkeeping -/

theorem copies_pos {cx : Ctx} {spec : TId → FId → Option Nat} {e : Entry} {f : FId} {t : TId} {sp : Nat}
    (ht : t ∈ cx.tables) (hsp : spec t f = some sp) (hw : wants cx t (cx.part f) e.pt = true)
    (hlt : sp < e.off) : 0 < copies cx spec e f := by
  unfold copies
  apply List.length_pos_of_mem (a := t)
  rw [List.mem_filter]
  refine ⟨ht, ?_⟩
  simp [hsp, hw, hlt]

theorem copies_pos_inv {cx : Ctx} {spec : TId → FId → Option Nat} {e : Entry} {f : FId}
    (h : 0 < copies cx spec e f) :
    ∃ t ∈ cx.tables, ∃ sp, spec t f = some sp ∧ wants cx t (cx.part f) e.pt = true ∧ sp < e.off := by
  unfold copies at h
  obtain ⟨t, ht⟩ := List.exists_mem_of_length_pos h
  rw [List.mem_filter] at ht
  refine ⟨t, ht.1, ?_⟩
  have h2 := ht.2
  cases hs : spec t f with
  | none => simp [hs] at h2
  | some sp =>
    simp only [hs, Bool.and_eq_true, decide_eq_true_eq] at h2
    exact ⟨sp, rfl, h2.1, h2.2⟩

theorem mem_specList {cx : Ctx} {spec : TId → FId → Option Nat} {joined : List FId} {t : TId} {f : FId}
    {sp : Nat} (hf : f ∈ joined) (ht : t ∈ cx.tables) (h : spec t f = some sp) :
    sp ∈ specList cx spec joined := by
  unfold specList
  simp only [List.mem_flatMap, List.mem_filterMap]
  exact ⟨f, hf, t, ht, h⟩

theorem advance_some {cx : Ctx} {e : Entry} {t : TId} {f : FId} {spO : Option Nat} {sp' : Nat}
    (h : advance cx e t f spO = some sp') :
    ∃ sp, spO = some sp ∧ sp' = (if cx.pid t e.pt = cx.part f then max sp e.off else sp) := by
  cases spO with
  | none => simp [advance] at h
  | some sp =>
    refine ⟨sp, rfl, ?_⟩
    simp only [advance] at h
    split at h <;> simp_all

theorem advance_of_some (cx : Ctx) (e : Entry) (t : TId) (f : FId) (sp : Nat) :
    advance cx e t f (some sp) = some (if cx.pid t e.pt = cx.part f then max sp e.off else sp) := by
  simp only [advance]
  split <;> rfl

theorem wants_pid {cx : Ctx} {t : TId} {p pt : Nat} (h : wants cx t p pt = true) : cx.pid t pt = p := by
  simp only [wants, Bool.and_eq_true, beq_iff_eq] at h
  exact h.1

/-- the configurations for which the protocol is exactly-once: `makeFollows` after fix
    C12-fix-01, or followers with at most one table (where the code as found computes the same) -/
def Good (cx : Ctx) : Prop := (cx.fixedEarliest = true ∨ cx.tables.length ≤ 1) ∧ cx.recoverMax = true

theorem earliestOf_le_bound {cx : Ctx} (off : TId → Nat) {b : Nat} (h : ∀ t, off t ≤ b) :
    earliestOf cx off ≤ b := by
  unfold earliestOf
  split
  · apply minList_le_of_all_le
    intro x hx
    obtain ⟨t, _, rfl⟩ := List.mem_map.mp hx
    exact h t
  · apply minList_le_of_all_le
    intro x hx
    have := (List.mem_filter.mp hx).1
    obtain ⟨t, _, rfl⟩ := List.mem_map.mp this
    exact h t

theorem earliestOf_le {cx : Ctx} (hg : Good cx) (off : TId → Nat) {t : TId} (ht : t ∈ cx.tables) :
    earliestOf cx off ≤ off t := by
  unfold earliestOf
  rcases hg.1 with hf | hl
  · simp only [hf, if_true]
    exact minList_le (List.mem_map.mpr ⟨t, ht, rfl⟩)
  · by_cases hf : cx.fixedEarliest = true
    · simp only [hf, if_true]
      exact minList_le (List.mem_map.mpr ⟨t, ht, rfl⟩)
    · simp only [hf]
      match hT : cx.tables, hl, ht with
      | [t'], _, ht =>
        simp only [List.mem_singleton] at ht
        subst ht
        by_cases h0 : off t = 0
        · simp [h0, minList]
        · simp [h0, minList]

/-! ## the invariant -/

/-- `apps` reflects exactly the entries of `W` up to `off` that table `t` of follower `f` wants,
    each once -/
structure Exact (cx : Ctx) (W : List Entry) (t : TId) (f : FId) (off : Nat) (apps : List Nat) : Prop where
  nodup : apps.Nodup
  mem : ∀ o, o ∈ apps ↔ ∃ e ∈ W, e.off = o ∧ o ≤ off ∧ wants cx t (cx.part f) e.pt = true

theorem Exact.nil (cx : Ctx) (t : TId) (f : FId) : Exact cx [] t f 0 [] :=
  ⟨List.nodup_nil, by intro o; simp⟩

/-- the WAL may gain entries beyond `off` -/
theorem Exact.growWal {cx : Ctx} {W W' : List Entry} {t : TId} {f : FId} {off : Nat} {apps : List Nat}
    (h : Exact cx W t f off apps) (hold : ∀ x ∈ W, x ∈ W') (hin : ∀ x ∈ W', x.off ≤ off → x ∈ W) :
    Exact cx W' t f off apps := by
  refine ⟨h.nodup, fun o => ?_⟩
  rw [h.mem o]
  constructor
  · rintro ⟨e, he, h1, h2⟩
    exact ⟨e, hold e he, h1, h2⟩
  · rintro ⟨e, he, rfl, h2⟩
    exact ⟨e, hin e he h2.1, rfl, h2⟩

/-- moving the offset up to an entry `e` of the WAL: if `e` is the only entry the table wants in
    `(off, e.off]`, the applications stay exact when `e.off` is appended exactly if `e` is wanted -/
theorem Exact.advance {cx : Ctx} {W : List Entry} {t : TId} {f : FId} {off : Nat} {apps : List Nat}
    (h : Exact cx W t f off apps) {e : Entry} (he : e ∈ W) (hlt : off < e.off)
    (honly : ∀ e' ∈ W, wants cx t (cx.part f) e'.pt = true → off < e'.off → e'.off ≤ e.off → e' = e) :
    Exact cx W t f e.off (if wants cx t (cx.part f) e.pt = true then apps ++ [e.off] else apps) := by
  have hmem := h.mem
  have hnot : e.off ∉ apps := fun hin => by
    obtain ⟨_, _, _, h3, _⟩ := (hmem e.off).mp hin
    omega
  refine ⟨by have := h.nodup; grind, fun o => ?_⟩
  constructor
  · grind
  · rintro ⟨e', he', rfl, hle, hw⟩
    by_cases hold : e'.off ≤ off
    · have := (hmem e'.off).mpr ⟨e', he', rfl, hold, hw⟩
      grind
    · have := honly e' he' hw (by omega) hle
      grind

structure Inv (cx : Ctx) (s : State) : Prop where
  walSorted : ∀ l, (s.wal l).Pairwise (fun a b => a.off < b.off)
  exMem : ∀ f t l, Exact cx (s.wal l) t f (s.memOff f t l) (s.memApps f t l)
  exDisk : ∀ f t l, Exact cx (s.wal l) t f (s.diskOff f t l) (s.diskApps f t l)
  exSnap : ∀ f t l, Exact cx (s.wal l) t f (s.snapOff f t l) (s.snapApps f t l)
  memTop : ∀ f t l, s.memOff f t l ≤ top (s.wal l)
  diskTop : ∀ f t l, s.diskOff f t l ≤ top (s.wal l)
  snapTop : ∀ f t l, s.snapOff f t l ≤ top (s.wal l)
  -- the `offset` file: never ahead of the WAL; where it is ahead of the filestore's header, the
  -- filestore's data is still exact for it (it was written over an empty memstore: only skipped
  -- entries lie between the two)
  offTop : ∀ f t l, s.offFile f t l ≤ top (s.wal l)
  snapOffTop : ∀ f t l, s.snapOffFile f t l ≤ top (s.wal l)
  offExact : ∀ f t l, s.offFile f t l ≤ s.diskOff f t l ∨
    Exact cx (s.wal l) t f (s.offFile f t l) (s.diskApps f t l)
  snapOffExact : ∀ f t l, s.snapOffFile f t l ≤ s.snapOff f t l ∨
    Exact cx (s.wal l) t f (s.snapOffFile f t l) (s.snapApps f t l)
  dirtyInv : ∀ f t, s.fup f = true → s.dirty f t = false → ∀ l, s.memApps f t l = s.diskApps f t l
  diskLeMem : ∀ f t l, s.fup f = true → s.diskOff f t l ≤ s.memOff f t l
  offLeMem : ∀ f t l, s.fup f = true → s.offFile f t l ≤ s.memOff f t l
  priorTop : ∀ f t l, s.prior f t l ≤ top (s.wal l)
  -- follower memory (meaningful while the follower runs)
  memLePrior : ∀ f t l, s.fup f = true → s.memOff f t l ≤ s.prior f t l
  pendSorted : ∀ f t l, s.fup f = true → (s.pending f t l).Pairwise (· < ·)
  pendRange : ∀ f t l, s.fup f = true → ∀ o ∈ s.pending f t l,
    s.memOff f t l < o ∧ o ≤ s.prior f t l ∧ ∃ e ∈ s.wal l, e.off = o
  pendCover : ∀ f t l, s.fup f = true → ∀ e ∈ s.wal l, wants cx t (cx.part f) e.pt = true →
    s.memOff f t l < e.off → e.off ≤ s.prior f t l → e.off ∈ s.pending f t l
  earliestLe : ∀ f t l, s.fup f = true → t ∈ cx.tables → s.earliest f l ≤ s.prior f t l
  earliestTop : ∀ f l, s.earliest f l ≤ top (s.wal l)
  -- connections
  connUp : ∀ l f, s.connected l f = true → s.lup l = true ∧ s.fup f = true
  linkConn : ∀ l f, s.linkUp l f = true → s.connected l f = true
  queueDown : ∀ l f, s.linkUp l f = false → s.queue l f = []
  reqLe : ∀ l f t, s.reqPending l f = true → s.connected l f = true → t ∈ cx.tables →
    s.reqEarliest l f ≤ s.prior f t l
  reqTop : ∀ l f, s.reqEarliest l f ≤ top (s.wal l)
  -- leader
  specJoined : ∀ l t f sp, s.spec l t f = some sp → f ∈ s.joined l ∧ t ∈ cx.tables
  specLink : ∀ l f t, s.linkUp l f = true → t ∈ cx.tables → ∃ sp, s.spec l t f = some sp
  specLeDone : ∀ l t f sp, s.spec l t f = some sp → sp ≤ s.done l t f
  doneTop : ∀ l t f, s.done l t f ≤ top (s.wal l)
  cursorLeDone : ∀ l t f sp, s.spec l t f = some sp → s.cursor l ≤ s.done l t f
  gap : ∀ l t f sp, s.spec l t f = some sp → ∀ e ∈ s.wal l, sp < e.off → e.off ≤ s.done l t f →
    cx.pid t e.pt ≠ cx.part f
  queueSorted : ∀ l f, (s.queue l f).Pairwise (· ≤ ·)
  queueDone : ∀ l t f sp, s.spec l t f = some sp → ∀ o ∈ s.queue l f, o ≤ s.done l t f
  queueWal : ∀ l f, ∀ o ∈ s.queue l f, ∃ e ∈ s.wal l, e.off = o
  -- nothing a table still needs is skipped: what the leader has considered for (t, f) and the
  -- table has not yet seen is on the link or being handed over
  linkCover : ∀ l f t sp, s.linkUp l f = true → s.spec l t f = some sp → ∀ e ∈ s.wal l,
    wants cx t (cx.part f) e.pt = true → s.prior f t l < e.off → e.off ≤ sp →
    (e.off ∈ s.queue l f ∨ ∃ rem, s.inflight f l = some (e.off, rem) ∧ t ∈ rem)
  -- an entry being handed to the tables
  inflUp : ∀ f l x, s.inflight f l = some x → s.fup f = true
  inflWal : ∀ f l o rem, s.inflight f l = some (o, rem) → ∃ e ∈ s.wal l, e.off = o
  inflDone : ∀ f l o rem, s.inflight f l = some (o, rem) → ∀ t ∈ cx.tables, t ∉ rem → o ≤ s.prior f t l
  inflGap : ∀ f l o rem t, s.inflight f l = some (o, rem) → t ∈ rem → ∀ e ∈ s.wal l,
    wants cx t (cx.part f) e.pt = true → s.prior f t l < e.off → e.off < o → False

/-- what `openRowStore` recovers (data of the newest filestore, per-source maximum of the two
    offset records) is exact: the recovered offset covers every entry reflected in the recovered
    data and nothing the table wants at or below it is missing -/
theorem Inv.recExact {cx : Ctx} {s : State} (hi : Inv cx s) (f : FId) (t : TId) (l : LId) :
    Exact cx (s.wal l) t f (max (s.offFile f t l) (s.diskOff f t l)) (s.diskApps f t l) := by
  by_cases h : s.offFile f t l ≤ s.diskOff f t l
  · rw [Nat.max_eq_right h]
    exact hi.exDisk f t l
  · rcases hi.offExact f t l with h' | h'
    · exact absurd h' h
    · rw [Nat.max_eq_left (by omega)]
      exact h'

theorem recOff_eq {cx : Ctx} (hg : Good cx) (s : State) (f : FId) (t : TId) (l : LId) :
    recOff cx s f t l = max (s.offFile f t l) (s.diskOff f t l) := by
  simp [recOff, hg.2]

theorem Inv.recOff_exact {cx : Ctx} (hg : Good cx) {s : State} (hi : Inv cx s) (f : FId) (t : TId) (l : LId) :
    Exact cx (s.wal l) t f (recOff cx s f t l) (s.diskApps f t l) :=
  recOff_eq hg s f t l ▸ hi.recExact f t l

theorem Inv.recOff_top {cx : Ctx} (hg : Good cx) {s : State} (hi : Inv cx s) (f : FId) (t : TId) (l : LId) :
    recOff cx s f t l ≤ top (s.wal l) :=
  recOff_eq hg s f t l ▸ Nat.max_le.mpr ⟨hi.offTop f t l, hi.diskTop f t l⟩

theorem inv_init (cx : Ctx) : Inv cx State.init := by
  constructor <;> simp [State.init, Exact.nil, top]

end Zeno.Repl
