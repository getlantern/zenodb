/-
Lemmas for C02 (Model/Crash.lean): the invariant `Inv` of the recovery protocol, kept by every
event (one lemma per event: it proves the clauses that read what the event writes, the record
update `{ h with … }` takes over the others), and what `recover` yields from it.
-/
import ZenoModel.Model.Crash

namespace Zeno.Crash

theorem flat_append (a b : List Entry) : flat (a ++ b) = flat a ++ flat b := by
  simp [flat, List.flatMap_append]

theorem upTo_zero (w : List Entry) : upTo w 0 = [] := by simp [upTo, flat]

theorem upTo_succ {w : List Entry} {n : Nat} {e : Entry} (h : w[n]? = some e) :
    upTo w (n + 1) = upTo w n ++ e.apps := by
  simp [upTo, List.take_add_one, h, flat]

theorem upTo_succ_none {w : List Entry} {n : Nat} (h : w[n]? = none) :
    upTo w (n + 1) = upTo w n := by
  simp [upTo, List.take_add_one, h]

theorem upTo_append_of_le {w : List Entry} {n : Nat} (e : Entry) (h : n ≤ w.length) :
    upTo (w ++ [e]) n = upTo w n := by
  simp [upTo, List.take_append_of_le_length h]

theorem upTo_of_length_le {w : List Entry} {n : Nat} (h : w.length ≤ n) : upTo w n = flat w := by
  simp [upTo, List.take_of_length_le h]

theorem flat_eq_upTo_append_drop (w : List Entry) (n : Nat) :
    flat w = upTo w n ++ flat (w.drop n) := by
  rw [upTo, ← flat_append, List.take_append_drop]

theorem apps_skip {e : Entry} (h : e.skip = true) : e.apps = [] := by simp [Entry.apps, h]

theorem apps_k0 {e : Entry} (h : e.k = 0) : e.apps = [] := by simp [Entry.apps, h]

theorem apps_length {e : Entry} (h : e.skip = false) : e.apps.length = e.k := by
  simp [Entry.apps, h]

theorem apps_getElem? {e : Entry} {p : Nat} (hs : e.skip = false) (hp : p < e.k) :
    e.apps[p]? = some (e.off, p) := by
  simp [Entry.apps, hs, hp]

theorem apps_take_succ {e : Entry} {p : Nat} (hs : e.skip = false) (hp : p < e.k) :
    e.apps.take (p + 1) = e.apps.take p ++ [(e.off, p)] := by
  rw [List.take_add_one, apps_getElem? hs hp]
  rfl

theorem apps_drop_last {e : Entry} {p : Nat} (hs : e.skip = false) (hp : p + 1 = e.k) :
    e.apps.drop p = [(e.off, p)] := by
  rw [List.drop_eq_getElem?_toList_append, apps_getElem? hs (by omega),
    List.drop_of_length_le (by rw [apps_length hs]; omega)]
  rfl

theorem mem_apps {e : Entry} {a : App} (h : a ∈ e.apps) : a.1 = e.off := by
  unfold Entry.apps at h
  split at h
  · cases h
  · obtain ⟨i, _, rfl⟩ := List.mem_map.1 h
    rfl

theorem apps_nodup (e : Entry) : e.apps.Nodup := by
  unfold Entry.apps
  split
  · exact List.nodup_nil
  · exact (List.pairwise_map.2 (List.pairwise_lt_range.imp fun hab heq =>
      Nat.ne_of_lt hab (congrArg Prod.snd heq)))

theorem mem_flat {w : List Entry} {a : App} (h : a ∈ flat w) : ∃ e ∈ w, a ∈ e.apps :=
  List.mem_flatMap.1 h

theorem flat_nodup {w : List Entry} (h : w.Pairwise (fun a b => a.off < b.off)) : (flat w).Nodup := by
  induction w with
  | nil => exact List.nodup_nil
  | cons e r ih =>
    rw [List.pairwise_cons] at h
    show (e.apps ++ flat r).Nodup
    refine List.nodup_append.2 ⟨apps_nodup e, ih h.2, fun a ha b hb hab => ?_⟩
    obtain ⟨x, hx, hbx⟩ := mem_flat hb
    have := h.1 x hx
    rw [← mem_apps ha, hab, mem_apps hbx] at this
    exact Nat.lt_irrefl _ this

theorem lt_of_getElem? {α : Type} {w : List α} {n : Nat} {e : α} (h : w[n]? = some e) : n < w.length :=
  (List.getElem?_eq_some_iff.mp h).1

/-- applications of the entry under the reader that are already in the memstore -/
def State.partialApps (s : State) : List App :=
  match s.wal[s.rd]? with
  | some e => e.apps.take s.pend
  | none => []

/-- position of the newest file of a directory listing (0 when there is none) -/
def headPos : List File → Nat
  | [] => 0
  | f :: _ => f.pos

/-- what each flush phase knows (a snapshot of the store taken when the flush began; no
    `rowStore.insert` is received while the row-store goroutine is inside `flush()`) -/
def PhaseOK (s : State) : Prop :=
  match s.phase with
  | .idle => s.cur = s.files.head?.getD File.empty
  | .began => s.cur = s.files.head?.getD File.empty ∧ s.pend = 0
  | .tmpWritten f => s.cur = s.files.head?.getD File.empty ∧ s.pend = 0 ∧
      f.apps = s.cur.apps ++ s.mem ∧ f.pos = s.memPos
  | .tmpSynced f => s.cur = s.files.head?.getD File.empty ∧ s.pend = 0 ∧
      f.apps = s.cur.apps ++ s.mem ∧ f.pos = s.memPos ∧ f.complete = true
  | .renamed f => s.files.head? = some f ∧ s.cur = s.files.tail.head?.getD File.empty ∧ s.pend = 0 ∧
      f.apps = s.cur.apps ++ s.mem ∧ f.pos = s.memPos
  | .offTmp p => s.cur = s.files.head?.getD File.empty ∧ s.pend = 0 ∧ p = s.memPos ∧ s.mem = []

/-- invariant of the running process -/
structure Vol (s : State) : Prop where
  rd_le : s.rd ≤ s.wal.length
  cur_apps : s.cur.apps = upTo s.wal s.cur.pos
  cur_le : s.cur.pos ≤ s.memPos
  mem_le : s.memPos ≤ s.wal.length
  off_mem : s.offFile ≤ s.memPos
  /-- file ++ memstore = everything handed over so far -/
  view : s.cur.apps ++ s.mem = upTo s.wal s.rd ++ s.partialApps
  /-- between the memstore offset and the reader only entries without applications -/
  pend0 : s.pend = 0 → s.memPos ≤ s.rd ∧ upTo s.wal s.rd = upTo s.wal s.memPos
  pendS : 0 < s.pend → s.memPos = s.rd + 1 ∧ s.mem ≠ [] ∧
            ∃ e, s.wal[s.rd]? = some e ∧ e.skip = false ∧ s.pend < e.k
  phase : PhaseOK s

/-- the invariant (durable part + `Vol` while the process runs) -/
structure Inv (s : State) : Prop where
  wf : s.wal.Pairwise (fun a b => a.off < b.off)
  /-- acknowledged entries are in the WAL (sync on every write) -/
  acked_in : ∀ o ∈ s.acked, ∃ e ∈ s.wal, e.off = o
  /-- every file in the directory is complete and reflects exactly the entries up to its offset -/
  files_ok : ∀ f ∈ s.files, f.complete = true ∧ f.pos ≤ s.wal.length ∧ f.apps = upTo s.wal f.pos
  /-- newer files have later offsets -/
  files_sorted : s.files.Pairwise (fun a b => b.pos ≤ a.pos)
  off_le : s.offFile ≤ s.wal.length
  /-- entries between the newest file's offset and the offset file have no applications -/
  off_gap : headPos s.files ≤ s.offFile → upTo s.wal s.offFile = upTo s.wal (headPos s.files)
  /-- the persisted offset is looked up under the source it is stored under -/
  src_ok : s.lookSrc = s.tagSrc
  vol : s.up = true → Vol s

theorem partialApps_pend0 {s : State} (h : s.pend = 0) : s.partialApps = [] := by
  unfold State.partialApps; split <;> simp [h]

theorem partialApps_some {s : State} {e : Entry} (h : s.wal[s.rd]? = some e) :
    s.partialApps = e.apps.take s.pend := by
  unfold State.partialApps; simp [h]

theorem PhaseOK.idle {s : State} (h : PhaseOK s) (hp : s.phase = .idle) :
    s.cur = s.files.head?.getD File.empty := by
  unfold PhaseOK at h
  rw [hp] at h
  exact h

theorem PhaseOK.of_idle {s s' : State} (h : PhaseOK s) (hp : s.phase = .idle) (hp' : s'.phase = s.phase)
    (hc : s'.cur = s.cur) (hf : s'.files = s.files) : PhaseOK s' := by
  unfold PhaseOK at h ⊢
  rw [hp] at h
  rw [hp', hp, hc, hf]
  exact h

theorem pend_rd_lt {s : State} (hv : Vol s) (hp : 0 < s.pend) : s.rd < s.wal.length := by
  obtain ⟨_, _, e, he, _⟩ := hv.pendS hp
  exact lt_of_getElem? he

theorem memPos_le_rd1 {s : State} (hv : Vol s) : s.memPos ≤ s.rd + 1 := by
  rcases Nat.eq_zero_or_pos s.pend with h0 | h0
  · have := (hv.pend0 h0).1; omega
  · have := (hv.pendS h0).1; omega

theorem pend_of_apps_nil {s : State} {e : Entry} (hv : Vol s) (he : s.wal[s.rd]? = some e)
    (ha : e.apps = []) : s.pend = 0 := by
  rcases Nat.eq_zero_or_pos s.pend with h0 | h0
  · exact h0
  · obtain ⟨_, _, x, hx, hsk, hk⟩ := hv.pendS h0
    cases he.symm.trans hx
    have := apps_length hsk
    rw [ha] at this
    exact absurd this (by simp; omega)

theorem headPos_le {s : State} (h : Inv s) : headPos s.files ≤ s.wal.length := by
  cases hf : s.files with
  | nil => simp [headPos]
  | cons f r => simpa [headPos] using (h.files_ok f (by simp [hf])).2.1

/-- The reader moves past entry `e`: what had not been handed over of `e` goes to the memstore, whose
    offset follows the reader — or stays, which the code does only for an entry without applications.
    `m` and `q` come with equations so that each caller writes the new state as its `step` yields it. -/
theorem Vol.advance {s : State} {e : Entry} (hv : Vol s) (he : s.wal[s.rd]? = some e) {m : List App}
    {p q : Nat} (b : Bool) (hm : m = s.mem ++ e.apps.drop s.pend)
    (hp : p = s.rd + 1 ∨ p = s.memPos ∧ e.apps = []) (hq : q = 0)
    (hph : PhaseOK { s with mem := m, memPos := p, offChanged := b, rd := s.rd + 1, pend := q }) :
    Vol { s with mem := m, memPos := p, offChanged := b, rd := s.rd + 1, pend := q } := by
  subst hm hq
  have hlt := lt_of_getElem? he
  have hmp := memPos_le_rd1 hv
  have hle : s.cur.pos ≤ p ∧ p ≤ s.wal.length ∧ s.offFile ≤ p ∧ p ≤ s.rd + 1 ∧
      upTo s.wal (s.rd + 1) = upTo s.wal p := by
    have := hv.cur_le
    have := hv.off_mem
    rcases hp with rfl | ⟨rfl, ha⟩
    · exact ⟨by omega, hlt, by omega, Nat.le_refl _, rfl⟩
    · have h0 := hv.pend0 (pend_of_apps_nil hv he ha)
      exact ⟨hv.cur_le, hv.mem_le, hv.off_mem, by omega, by rw [upTo_succ he, ha, List.append_nil, h0.2]⟩
  exact {
    rd_le := hlt
    cur_apps := hv.cur_apps
    cur_le := hle.1
    mem_le := hle.2.1
    off_mem := hle.2.2.1
    view := by
      show s.cur.apps ++ (s.mem ++ e.apps.drop s.pend) = upTo s.wal (s.rd + 1) ++ _
      rw [partialApps_pend0 rfl, ← List.append_assoc, hv.view, partialApps_some he, List.append_assoc,
        List.take_append_drop, upTo_succ he, List.append_nil]
    pend0 := fun _ => ⟨hle.2.2.2.1, hle.2.2.2.2⟩
    pendS := fun h0 => absurd h0 (Nat.lt_irrefl 0)
    phase := hph }

/-- one `rowStore.insert` that is not the last of its entry -/
theorem Vol.apply {s : State} {e : Entry} (hv : Vol s) (he : s.wal[s.rd]? = some e) (hsk : e.skip = false)
    (hk : s.pend + 1 < e.k) (hph : s.phase = .idle) :
    Vol { s with mem := s.mem ++ [(e.off, s.pend)], memPos := s.rd + 1, offChanged := true,
                 pend := s.pend + 1 } := by
  have hlt := lt_of_getElem? he
  have hmp := memPos_le_rd1 hv
  have := hv.cur_le
  have := hv.off_mem
  exact { hv with
    cur_le := by show s.cur.pos ≤ s.rd + 1; omega
    mem_le := hlt
    off_mem := by show s.offFile ≤ s.rd + 1; omega
    view := by
      have hview := hv.view
      simp only [State.partialApps, he] at hview ⊢
      rw [← List.append_assoc, hview, List.append_assoc, ← apps_take_succ hsk (by omega)]
    pend0 := fun h0 => absurd h0 (Nat.succ_ne_zero _)
    pendS := fun _ => ⟨rfl, by simp, e, he, hsk, hk⟩
    phase := hv.phase.of_idle hph rfl rfl rfl }

theorem partialApps_append {s : State} (e : Entry) (hp : 0 < s.pend → s.rd < s.wal.length) :
    ({ s with wal := s.wal ++ [e] } : State).partialApps = s.partialApps := by
  rcases Nat.eq_zero_or_pos s.pend with h0 | h0
  · rw [partialApps_pend0 h0, partialApps_pend0 (s := { s with wal := s.wal ++ [e] }) h0]
  · unfold State.partialApps
    show (match (s.wal ++ [e])[s.rd]? with | some e => e.apps.take s.pend | none => []) = _
    rw [List.getElem?_append_left (hp h0)]

theorem inv_walAppend {s s' : State} {e : Entry} (h : Inv s) (hs : step s (.walAppend e) = some s') :
    Inv s' := by
  simp only [step, Option.ite_none_right_eq_some, Bool.and_eq_true, List.all_eq_true,
    decide_eq_true_eq, Option.some.injEq] at hs
  obtain ⟨⟨_, hoff⟩, rfl⟩ := hs
  have hlen : ∀ {n}, n ≤ s.wal.length → n ≤ (s.wal ++ [e]).length := fun hn => by simp; omega
  have hup : ∀ {n}, n ≤ s.wal.length → upTo (s.wal ++ [e]) n = upTo s.wal n := upTo_append_of_le e
  exact { h with
    wf := List.pairwise_append.2 ⟨h.wf, List.pairwise_singleton _ _,
      fun a ha b hb => by cases List.mem_singleton.1 hb; exact hoff a ha⟩
    acked_in := fun o ho =>
      let ⟨x, hx, hxo⟩ := h.acked_in o ho
      ⟨x, List.mem_append_left _ hx, hxo⟩
    files_ok := fun f hf =>
      let ⟨c, p, a⟩ := h.files_ok f hf
      ⟨c, hlen p, a.trans (hup p).symm⟩
    off_le := hlen h.off_le
    off_gap := fun hle => (hup h.off_le).trans ((h.off_gap hle).trans (hup (headPos_le h)).symm)
    vol := fun hu =>
      let hv := h.vol hu
      { hv with
        rd_le := hlen hv.rd_le
        cur_apps := hv.cur_apps.trans (hup (Nat.le_trans hv.cur_le hv.mem_le)).symm
        mem_le := hlen hv.mem_le
        view := by
          show s.cur.apps ++ s.mem = upTo (s.wal ++ [e]) s.rd ++ _
          rw [hup hv.rd_le, partialApps_append e (pend_rd_lt hv)]
          exact hv.view
        pend0 := fun h0 => ⟨(hv.pend0 h0).1, (hup hv.rd_le).trans ((hv.pend0 h0).2.trans (hup hv.mem_le).symm)⟩
        pendS := fun h0 =>
          let ⟨a, b, x, hx, c⟩ := hv.pendS h0
          ⟨a, b, x, (List.getElem?_append_left (lt_of_getElem? hx)).trans hx, c⟩ } }

theorem inv_walAck {s s' : State} {o : Nat} (h : Inv s) (hs : step s (.walAck o) = some s') : Inv s' := by
  simp only [step, Option.ite_none_right_eq_some, Bool.and_eq_true, List.any_eq_true, beq_iff_eq,
    Option.some.injEq] at hs
  obtain ⟨⟨_, hin⟩, rfl⟩ := hs
  exact { h with
    acked_in := fun o' ho' => (List.mem_cons.mp ho').elim (fun heq => heq ▸ hin) (h.acked_in o')
    vol := fun hu => { h.vol hu with } }

theorem inv_apply {s s' : State} {o : Nat} (h : Inv s) (hs : step s (.apply o) = some s') : Inv s' := by
  simp only [step] at hs
  split at hs <;> simp only [Option.ite_none_right_eq_some, reduceCtorEq, Bool.and_eq_true,
    decide_eq_true_eq, Bool.not_eq_true'] at hs
  rename_i e he
  obtain ⟨⟨⟨⟨⟨hup, hph⟩, hsk⟩, hpk⟩, _⟩, hs⟩ := hs
  have hv := h.vol hup
  split at hs <;> cases hs
  · rename_i hk
    exact { h with
      vol := fun _ => hv.advance he true (by rw [apps_drop_last hsk hk]) (.inl rfl) rfl
        (hv.phase.of_idle hph rfl rfl rfl) }
  · exact { h with vol := fun _ => hv.apply he hsk (by omega) hph }

theorem inv_skip {s s' : State} {o : Nat} (h : Inv s) (hs : step s (.skip o) = some s') : Inv s' := by
  simp only [step] at hs
  split at hs <;> simp only [Option.ite_none_right_eq_some, reduceCtorEq, Option.some.injEq,
    Bool.and_eq_true, decide_eq_true_eq] at hs
  rename_i e he
  obtain ⟨⟨⟨⟨⟨hup, hph⟩, hsk⟩, hp0⟩, _⟩, rfl⟩ := hs
  have hv := h.vol hup
  exact { h with
    vol := fun _ => hv.advance he true (by simp [apps_skip hsk]) (.inl rfl) hp0
      (hv.phase.of_idle hph rfl rfl rfl) }

theorem inv_pass {s s' : State} (h : Inv s) (hs : step s .pass = some s') : Inv s' := by
  simp only [step] at hs
  split at hs <;> simp only [Option.ite_none_right_eq_some, reduceCtorEq, Option.some.injEq,
    Bool.and_eq_true, decide_eq_true_eq] at hs
  rename_i e he
  obtain ⟨⟨⟨⟨hup, _⟩, hk0⟩, hp0⟩, rfl⟩ := hs
  have hv := h.vol hup
  exact { h with
    vol := fun _ => hv.advance he s.offChanged (by simp [apps_k0 hk0]) (.inr ⟨rfl, apps_k0 hk0⟩) hp0 hv.phase }

theorem inv_flushBegin {s s' : State} (h : Inv s) (ha : ¬ midEntryFlush s .flushBegin = true)
    (hs : step s .flushBegin = some s') : Inv s' := by
  simp only [step, Option.ite_none_right_eq_some, Bool.and_eq_true, decide_eq_true_eq,
    Option.some.injEq] at hs
  obtain ⟨⟨⟨hup, hph⟩, _⟩, rfl⟩ := hs
  have hv := h.vol hup
  exact { h with vol := fun _ => { hv with phase := ⟨hv.phase.idle hph, by simpa [midEntryFlush] using ha⟩ } }

theorem inv_tmpWritten {s s' : State} (h : Inv s) (hs : step s .tmpWritten = some s') : Inv s' := by
  simp only [step, Option.ite_none_right_eq_some, Bool.and_eq_true, decide_eq_true_eq,
    Option.some.injEq] at hs
  obtain ⟨⟨hup, hph⟩, rfl⟩ := hs
  have hv := h.vol hup
  have hp := hv.phase
  simp only [PhaseOK, hph] at hp
  exact { h with vol := fun _ => { hv with phase := ⟨hp.1, hp.2, rfl, rfl⟩ } }

theorem inv_tmpSynced {s s' : State} (h : Inv s) (hs : step s .tmpSynced = some s') : Inv s' := by
  simp only [step] at hs
  split at hs <;> simp only [Option.ite_none_right_eq_some, reduceCtorEq, Option.some.injEq] at hs
  rename_i f hph
  obtain ⟨hup, rfl⟩ := hs
  have hv := h.vol hup
  have hp := hv.phase
  simp only [PhaseOK, hph] at hp
  obtain ⟨hcur, hp0, hfa, hfp⟩ := hp
  exact { h with vol := fun _ => { hv with phase := ⟨hcur, hp0, hfa, hfp, rfl⟩ } }

theorem headPos_eq_cur {fs : List File} {c : File} (h : c = fs.head?.getD File.empty) :
    headPos fs = c.pos := by
  cases fs <;> simp [headPos, h, File.empty]

theorem le_headPos {fs : List File} (hs : fs.Pairwise (fun a b => b.pos ≤ a.pos)) :
    ∀ g ∈ fs, g.pos ≤ headPos fs := by
  intro g hg
  cases fs with
  | nil => cases hg
  | cons f r =>
    rcases List.mem_cons.mp hg with rfl | hr
    · exact Nat.le_refl _
    · exact (List.pairwise_cons.mp hs).1 g hr

theorem inv_renamed {s s' : State} (h : Inv s) (hs : step s .renamed = some s') : Inv s' := by
  simp only [step] at hs
  split at hs <;> simp only [Option.ite_none_right_eq_some, reduceCtorEq, Option.some.injEq] at hs
  rename_i f hph
  obtain ⟨hup, rfl⟩ := hs
  have hv := h.vol hup
  have hp := hv.phase
  simp only [PhaseOK, hph] at hp
  obtain ⟨hcur, hp0, hfa, hfp, hfc⟩ := hp
  have hview := hv.view
  rw [partialApps_pend0 hp0, List.append_nil, (hv.pend0 hp0).2] at hview
  have hhp := headPos_eq_cur hcur
  have := hv.cur_le
  have := hv.off_mem
  exact { h with
    files_ok := fun g hg => by
      rcases List.mem_cons.mp hg with rfl | hr
      · exact ⟨hfc, hfp ▸ hv.mem_le, by rw [hfa, hfp, hview]⟩
      · exact h.files_ok g hr
    files_sorted := List.pairwise_cons.2
      ⟨fun g hg => by have := le_headPos h.files_sorted g hg; omega, h.files_sorted⟩
    off_gap := fun hle => by
      have : s.offFile = f.pos := by have : f.pos ≤ s.offFile := hle; omega
      rw [this]; rfl
    vol := fun _ => { hv with phase := ⟨rfl, hcur, hp0, hfa, hfp⟩ } }

theorem inv_swapped {s s' : State} (h : Inv s) (hs : step s .swapped = some s') : Inv s' := by
  simp only [step] at hs
  split at hs <;> simp only [Option.ite_none_right_eq_some, reduceCtorEq, Option.some.injEq] at hs
  rename_i f hph
  obtain ⟨hup, rfl⟩ := hs
  have hv := h.vol hup
  have hp := hv.phase
  simp only [PhaseOK, hph] at hp
  obtain ⟨hhead, hcur, hp0, hfa, hfp⟩ := hp
  obtain ⟨_, _, hfu⟩ := h.files_ok f (List.mem_of_mem_head? hhead)
  exact { h with
    vol := fun _ => { hv with
      cur_apps := hfu
      cur_le := Nat.le_of_eq hfp
      view := by
        show f.apps ++ [] = upTo s.wal s.rd ++ _
        rw [List.append_nil, hfa]
        exact hv.view
      pendS := fun h0 => absurd hp0 (Nat.ne_of_gt h0)
      phase := by
        show f = s.files.head?.getD File.empty
        rw [hhead]; rfl } }

theorem inv_offTmpWritten {s s' : State} (h : Inv s) (hs : step s .offTmpWritten = some s') : Inv s' := by
  simp only [step, Option.ite_none_right_eq_some, Bool.and_eq_true, decide_eq_true_eq,
    List.isEmpty_iff, Option.some.injEq] at hs
  obtain ⟨⟨⟨⟨hup, hph⟩, hmem⟩, _⟩, rfl⟩ := hs
  have hv := h.vol hup
  have hp0 : s.pend = 0 := (Nat.eq_zero_or_pos _).resolve_right fun h0 => (hv.pendS h0).2.1 hmem
  exact { h with vol := fun _ => { hv with phase := ⟨hv.phase.idle hph, hp0, rfl, hmem⟩ } }

theorem inv_offRenamed {s s' : State} (h : Inv s) (hs : step s .offRenamed = some s') : Inv s' := by
  simp only [step] at hs
  split at hs <;> simp only [Option.ite_none_right_eq_some, reduceCtorEq, Option.some.injEq] at hs
  rename_i p hph
  obtain ⟨hup, rfl⟩ := hs
  have hv := h.vol hup
  have hp := hv.phase
  simp only [PhaseOK, hph] at hp
  obtain ⟨hcur, hp0, rfl, hmem⟩ := hp
  have hview := hv.view
  rw [partialApps_pend0 hp0, List.append_nil, hmem, List.append_nil, hv.cur_apps, (hv.pend0 hp0).2] at hview
  exact { h with
    off_le := hv.mem_le
    off_gap := fun _ => by
      show upTo s.wal s.memPos = upTo s.wal (headPos s.files)
      rw [headPos_eq_cur hcur, hview]
    vol := fun _ => { hv with
      off_mem := Nat.le_refl _
      phase := hcur } }

theorem inv_crashF {s : State} (h : Inv s) : Inv (crashF s) :=
  { h with vol := fun hup => by cases hup }

theorem inv_crash {s s' : State} (h : Inv s) (hs : step s .crash = some s') : Inv s' := by
  simp only [step, Option.ite_none_right_eq_some, Option.some.injEq] at hs
  exact hs.2 ▸ inv_crashF h

theorem eraseIdx_ge2 {fs : List File} {i : Nat} (h2 : 2 ≤ i) (hi : i < fs.length) :
    ∃ a b r, fs = a :: b :: r ∧ fs.eraseIdx i = a :: b :: r.eraseIdx (i - 2) := by
  match fs, i with
  | [], _ => simp at hi
  | [_], _ => simp at hi; omega
  | a :: b :: r, j + 2 => exact ⟨a, b, r, rfl, by simp [List.eraseIdx]⟩

/-- `PhaseOK` reads the directory only through its two newest files -/
theorem PhaseOK.of_files {s : State} (h : PhaseOK s) {fs : List File} (hh : fs.head? = s.files.head?)
    (ht : fs.tail.head? = s.files.tail.head?) : PhaseOK { s with files := fs } := by
  unfold PhaseOK at h ⊢
  dsimp only
  rw [hh, ht]
  exact h

theorem inv_oldFileRemoved {s s' : State} {i : Nat} (h : Inv s) (hs : step s (.oldFileRemoved i) = some s') :
    Inv s' := by
  simp only [step, Option.ite_none_right_eq_some, Bool.and_eq_true, decide_eq_true_eq,
    Option.some.injEq] at hs
  obtain ⟨⟨⟨hup, h2⟩, hi⟩, rfl⟩ := hs
  obtain ⟨a, b, r, hfs, her⟩ := eraseIdx_ge2 h2 hi
  have hsub : (s.files.eraseIdx i).Sublist s.files := List.eraseIdx_sublist _ _
  have hhp : headPos (s.files.eraseIdx i) = headPos s.files := by rw [her, hfs]; rfl
  exact { h with
    files_ok := fun g hg => h.files_ok g (hsub.subset hg)
    files_sorted := h.files_sorted.sublist hsub
    off_gap := by
      show headPos (s.files.eraseIdx i) ≤ _ → _ = upTo s.wal (headPos (s.files.eraseIdx i))
      rw [hhp]
      exact h.off_gap
    vol := fun _ => { h.vol hup with
      phase := (h.vol hup).phase.of_files (by rw [her, hfs]; rfl) (by rw [her, hfs]; rfl) } }

theorem pickFile_complete {fs : List File} (h : ∀ f ∈ fs, f.complete = true) :
    pickFile fs = (fs.head?, fs) := by
  cases fs with
  | nil => rfl
  | cons f r => simp [pickFile, h f (by simp)]

theorem startPos_eq {s : State} (h : ∀ f ∈ s.files, f.complete = true) :
    startPos s = max (headPos s.files) s.offFile := by
  unfold startPos
  rw [pickFile_complete h]
  cases s.files <;> simp [headPos]

theorem inv_reopenF {s : State} (h : Inv s) : Inv (reopenF s) := by
  have hc : ∀ f ∈ s.files, f.complete = true := fun f hf => (h.files_ok f hf).1
  have hhp := headPos_le h
  have hol := h.off_le
  have hcp : (s.files.head?.getD File.empty).pos = headPos s.files := (headPos_eq_cur rfl).symm
  have hca : (s.files.head?.getD File.empty).apps = upTo s.wal (headPos s.files) := by
    cases hf : s.files with
    | nil => simp [File.empty, headPos, upTo_zero]
    | cons f r => simpa [headPos] using (h.files_ok f (by simp [hf])).2.2
  have hgap : upTo s.wal (max (headPos s.files) s.offFile) = upTo s.wal (headPos s.files) := by
    rcases Nat.le_total (headPos s.files) s.offFile with hle | hle
    · rw [Nat.max_eq_right hle, h.off_gap hle]
    · rw [Nat.max_eq_left hle]
  unfold reopenF readPos
  simp only [pickFile_complete hc, startPos_eq hc, if_pos h.src_ok]
  exact { h with
    vol := fun _ =>
      { rd_le := Nat.max_le.2 ⟨hhp, hol⟩
        cur_apps := hca.trans (congrArg _ hcp.symm)
        cur_le := hcp ▸ Nat.le_max_left _ _
        mem_le := Nat.max_le.2 ⟨hhp, hol⟩
        off_mem := Nat.le_max_right _ _
        view := by
          show _ ++ [] = _ ++ _
          rw [partialApps_pend0 rfl, hgap, hca]
        pend0 := fun _ => ⟨Nat.le_refl _, rfl⟩
        pendS := fun h0 => absurd h0 (Nat.lt_irrefl 0)
        phase := rfl } }

theorem inv_reopen {s s' : State} {p : Nat} (h : Inv s) (hs : step s (.reopen p) = some s') : Inv s' := by
  simp only [step, Option.ite_none_right_eq_some, Option.some.injEq] at hs
  exact hs.2 ▸ inv_reopenF h

theorem ingestEntry_frame (s : State) (e : Entry) :
    (ingestEntry s e).up = s.up ∧ (ingestEntry s e).phase = s.phase ∧ (ingestEntry s e).rd = s.rd + 1 := by
  unfold ingestEntry
  split
  · exact ⟨rfl, rfl, rfl⟩
  · split <;> exact ⟨rfl, rfl, rfl⟩

/-- `crashF` keeps exactly the durable part of a state: catching up writes nothing durable -/
theorem ingestEntry_durable (s : State) (e : Entry) : crashF (ingestEntry s e) = crashF s := by
  unfold ingestEntry
  split
  · rfl
  · split <;> rfl

theorem wal_of_crashF_eq {s s' : State} (h : crashF s' = crashF s) : s'.wal = s.wal :=
  (congrArg State.wal h :)

theorem inv_ingestEntry {s : State} {e : Entry} (h : Inv s) (hup : s.up = true) (hph : s.phase = .idle)
    (he : s.wal[s.rd]? = some e) : Inv (ingestEntry s e) := by
  have hv := h.vol hup
  have hphase := fun {s'} => hv.phase.of_idle (s' := s') hph
  unfold ingestEntry
  split
  · rename_i hsk
    exact { h with
      vol := fun _ => hv.advance he true (by simp [apps_skip hsk]) (.inl rfl) rfl (hphase rfl rfl rfl) }
  · split
    · rename_i hk0
      exact { h with
        vol := fun _ => hv.advance he s.offChanged (by simp [apps_k0 hk0]) (.inr ⟨rfl, apps_k0 hk0⟩) rfl
          (hphase rfl rfl rfl) }
    · exact { h with vol := fun _ => hv.advance he true rfl (.inl rfl) rfl (hphase rfl rfl rfl) }

theorem rd_pend_of_length_le {s : State} (hv : Vol s) (hle : s.wal.length ≤ s.rd) :
    s.rd = s.wal.length ∧ s.pend = 0 :=
  ⟨Nat.le_antisymm hv.rd_le hle,
   (Nat.eq_zero_or_pos _).resolve_right fun h0 => Nat.not_le.2 (pend_rd_lt hv h0) hle⟩

theorem inv_drain (n : Nat) : ∀ {s : State}, Inv s → s.up = true → s.phase = .idle →
    Inv (drain n s) ∧ (drain n s).up = true ∧
      (s.wal.length - s.rd ≤ n → (drain n s).rd = s.wal.length ∧ (drain n s).pend = 0) := by
  induction n with
  | zero =>
    intro s h hup _
    exact ⟨h, hup, fun hle => rd_pend_of_length_le (s := s) (h.vol hup) (by omega)⟩
  | succ n ih =>
    intro s h hup hph
    unfold drain
    split
    · rename_i hnone
      exact ⟨h, hup, fun _ => rd_pend_of_length_le (h.vol hup) (List.getElem?_eq_none_iff.1 hnone)⟩
    · rename_i e he
      obtain ⟨hu, hp, hr⟩ := ingestEntry_frame s e
      have hw := wal_of_crashF_eq (ingestEntry_durable s e)
      obtain ⟨a, b, c⟩ := ih (inv_ingestEntry h hup hph he) (hu.trans hup) (hp.trans hph)
      rw [hw, hr] at c
      exact ⟨a, b, fun hle => c (by omega)⟩

theorem drain_durable (n : Nat) : ∀ (s : State), crashF (drain n s) = crashF s := by
  induction n with
  | zero => exact fun s => rfl
  | succ n ih =>
    intro s
    unfold drain
    split
    · rfl
    · exact (ih _).trans (ingestEntry_durable s _)

theorem inv_catchUpF {s : State} (h : Inv s) (hup : s.up = true) (hph : s.phase = .idle) :
    Inv (catchUpF s) ∧ (catchUpF s).up = true ∧ (catchUpF s).rd = s.wal.length ∧
      (catchUpF s).pend = 0 ∧ crashF (catchUpF s) = crashF s :=
  let ⟨hi, hu, hd⟩ := inv_drain (s.wal.length - s.rd) h hup hph
  ⟨hi, hu, (hd (Nat.le_refl _)).1, (hd (Nat.le_refl _)).2, drain_durable _ s⟩

theorem inv_catchUp {s s' : State} (h : Inv s) (hs : step s .catchUp = some s') : Inv s' := by
  simp only [step, Option.ite_none_right_eq_some, Bool.and_eq_true, decide_eq_true_eq,
    Option.some.injEq] at hs
  exact hs.2 ▸ (inv_catchUpF h hs.1.1 hs.1.2).1

theorem recover_content {s : State} (h : Inv s) : (recover s).content = flat s.wal := by
  obtain ⟨hi, hu, hr, hp, hd⟩ : _ ∧ _ ∧ (recover s).rd = s.wal.length ∧ (recover s).pend = 0 ∧ _ :=
    inv_catchUpF (inv_reopenF (inv_crashF h)) rfl rfl
  have hw : (recover s).wal = s.wal := wal_of_crashF_eq (s := reopenF (crashF s)) hd
  have hview : (recover s).content = upTo (recover s).wal (recover s).rd ++ (recover s).partialApps :=
    (hi.vol hu).view
  rw [hview, partialApps_pend0 hp, List.append_nil, hw]
  exact upTo_of_length_le (Nat.le_of_eq hr.symm)

theorem recovered_of_inv {s : State} (h : Inv s) : RecoveredExactlyOnce s := by
  have hc := recover_content h
  have hnd := flat_nodup h.wf
  refine ⟨hc, fun a => hc ▸ List.nodup_iff_count.mp hnd a, fun o ho => ?_⟩
  obtain ⟨e, he, heo⟩ := h.acked_in o ho
  exact ⟨e, he, heo, fun a ha => hc ▸ hnd.count.trans (if_pos (List.mem_flatMap.2 ⟨e, he, ha⟩))⟩

theorem inv_initCfg (src : Nat) : Inv (State.initCfg src src) :=
  { wf := .nil
    acked_in := fun _ ho => absurd ho List.not_mem_nil
    files_ok := fun _ hf => absurd hf List.not_mem_nil
    files_sorted := .nil
    off_le := Nat.le_refl 0
    off_gap := fun _ => rfl
    src_ok := rfl
    vol := fun hup => by cases hup }

theorem inv_init' : Inv State.init := inv_initCfg 0

theorem inv_stepA {s s' : State} {e : Event} (h : Inv s) (hs : stepA s e = some s') : Inv s' := by
  unfold stepA at hs
  split at hs
  · cases hs
  · rename_i hmid
    cases e with
    | walAppend x => exact inv_walAppend h hs
    | walAck o => exact inv_walAck h hs
    | apply o => exact inv_apply h hs
    | skip o => exact inv_skip h hs
    | pass => exact inv_pass h hs
    | flushBegin => exact inv_flushBegin h hmid hs
    | tmpWritten => exact inv_tmpWritten h hs
    | tmpSynced => exact inv_tmpSynced h hs
    | renamed => exact inv_renamed h hs
    | swapped => exact inv_swapped h hs
    | offTmpWritten => exact inv_offTmpWritten h hs
    | offRenamed => exact inv_offRenamed h hs
    | oldFileRemoved i => exact inv_oldFileRemoved h hs
    | crash => exact inv_crash h hs
    | reopen p => exact inv_reopen h hs
    | catchUp => exact inv_catchUp h hs

theorem reachableA_inv {s : State} (h : ReachableA s) : Inv s := by
  induction h with
  | init src => exact inv_initCfg src
  | step _ hs ih => exact inv_stepA ih hs

theorem reachableA_runA {s : State} (h : ReachableA s) : ∀ (es : List Event) {s' : State},
    runA s es = some s' → ReachableA s'
  | [], _, hs => Option.some.inj hs ▸ h
  | _ :: es, _, hs =>
    let ⟨_, h1, h2⟩ := Option.bind_eq_some_iff.1 hs
    reachableA_runA (.step h h1) es h2

theorem reachable_run {s : State} (h : Reachable s) : ∀ (es : List Event) {s' : State},
    run s es = some s' → Reachable s'
  | [], _, hs => Option.some.inj hs ▸ h
  | _ :: es, _, hs =>
    let ⟨_, h1, h2⟩ := Option.bind_eq_some_iff.1 hs
    reachable_run (.step h h1) es h2

theorem step_src_wal {s s' : State} {e : Event} (hs : step s e = some s') :
    s'.tagSrc = s.tagSrc ∧ s'.lookSrc = s.lookSrc ∧ (s'.wal = s.wal ∨ ∃ x, s'.wal = s.wal ++ [x]) := by
  cases e <;> simp only [step] at hs
  case walAppend x =>
    split at hs
    · cases hs; exact ⟨rfl, rfl, .inr ⟨x, rfl⟩⟩
    · cases hs
  case catchUp =>
    split at hs
    · cases hs
      have hd := drain_durable (s.wal.length - s.rd) s
      exact ⟨(congrArg State.tagSrc hd :), (congrArg State.lookSrc hd :), .inl (congrArg State.wal hd :)⟩
    · cases hs
  case reopen p =>
    split at hs
    · cases hs; exact ⟨rfl, rfl, .inl rfl⟩
    · cases hs
  all_goals
    repeat' split at hs
    all_goals first | (cases hs; exact ⟨rfl, rfl, .inl rfl⟩) | cases hs

theorem pend_eq_zero_of_scalar {s : State} (h : Inv s) (hsc : Scalar s.wal) (hup : s.up = true) : s.pend = 0 := by
  rcases Nat.eq_zero_or_pos s.pend with h0 | h0
  · exact h0
  · obtain ⟨_, _, e, he, _, hk⟩ := (h.vol hup).pendS h0
    have := hsc e (List.mem_of_getElem? he)
    omega

theorem reachable_scalar {s : State} (h : Reachable s) : Scalar s.wal → ReachableA s := by
  induction h with
  | init src => exact fun _ => .init src
  | @step s s' e _ hs ih =>
    intro hsc
    have hsc0 : Scalar s.wal := by
      rcases (step_src_wal hs).2.2 with hw | ⟨x, hw⟩ <;> rw [hw] at hsc
      · exact hsc
      · exact fun y hy => hsc y (List.mem_append_left _ hy)
    have hr := ih hsc0
    refine .step (e := e) hr ?_
    unfold stepA
    split
    · rename_i hmid
      simp only [midEntryFlush, Bool.and_eq_true, beq_iff_eq, bne_iff_ne] at hmid
      obtain ⟨rfl, hp⟩ := hmid
      simp only [step, Option.ite_none_right_eq_some, Bool.and_eq_true, decide_eq_true_eq] at hs
      exact absurd (pend_eq_zero_of_scalar (reachableA_inv hr) hsc0 hs.1.1.1) hp
    · exact hs

/-- the model can always perform a clean close from a state whose row store is idle and
    not in the middle of an entry -/
theorem closeEvents_run {s : State} (hup : s.up = true) (hph : s.phase = .idle) (hp : s.pend = 0) :
    ∃ s', runA s (closeEvents s) = some s' ∧ s'.up = false ∧ s'.wal = s.wal ∧ s'.acked = s.acked := by
  unfold closeEvents
  cases hm : s.mem.isEmpty
  · simp [runA, stepA, step, midEntryFlush, hup, hph, hp, hm, crashF]
  · cases hc : s.offChanged <;> simp [runA, stepA, step, midEntryFlush, hup, hph, hp, hm, hc, crashF]

end Zeno.Crash
