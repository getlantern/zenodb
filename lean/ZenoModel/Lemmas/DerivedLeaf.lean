/-
Derived selected expressions, the leaf-wise reading.  Merging the column sources of the
member rows over the periods `ts` (column by column, as the code does) = merging, period by period,
the state assembled from each row's columns at that period.  The two nested merge loops are
exchanged by way of sums in the commutative monoid (`mrg`, `empty`) of the well-formed states.
-/
import ZenoModel.Lemmas.DerivedGroup
namespace Zeno

/-- the merge of the states `g i`, `i ∈ l`, in order -/
def msum {α : Type} (e : Ex) (l : List α) (g : α → List Cell) : List Cell :=
  l.foldl (fun a i => e.mrg a (g i)) e.empty

section
variable {e : Ex} (hv : e.valid = true) (hp : e.noPtile = true)
include hv hp

theorem mrg_medial {a b c d : List Cell} (ha : WF e a) (hb : WF e b) (hc : WF e c) (hd : WF e d) :
    e.mrg (e.mrg a b) (e.mrg c d) = e.mrg (e.mrg a c) (e.mrg b d) := by
  rw [mrg_assoc hv hp ha hb (mrg_wf hv hp hc hd), ← mrg_assoc hv hp hb hc hd, mrg_comm hv hp hb hc,
    mrg_assoc hv hp hc hb hd, ← mrg_assoc hv hp ha hc (mrg_wf hv hp hb hd)]

theorem msum_wf {α : Type} (l : List α) (g : α → List Cell) (hg : ∀ i, WF e (g i)) : WF e (msum e l g) :=
  foldl_mrg_wf hv hp g hg l _ (wf_empty e)

theorem foldl_mrg_eq_msum {α : Type} (g : α → List Cell) (hg : ∀ i, WF e (g i)) :
    ∀ (l : List α) (a0 : List Cell), WF e a0 →
      l.foldl (fun a i => e.mrg a (g i)) a0 = e.mrg a0 (msum e l g) := by
  intro l
  induction l with
  | nil => intro a0 h0; exact (mrg_empty_right hv hp h0).symm
  | cons i l ih =>
    intro a0 h0
    unfold msum
    simp only [List.foldl_cons]
    rw [ih _ (mrg_wf hv hp h0 (hg i)), ih _ (mrg_wf hv hp (wf_empty e) (hg i)), mrg_empty_left hv hp (hg i),
      mrg_assoc hv hp h0 (hg i) (msum_wf hv hp l g hg)]

theorem msum_cons {α : Type} (g : α → List Cell) (hg : ∀ i, WF e (g i)) (i : α) (l : List α) :
    msum e (i :: l) g = e.mrg (g i) (msum e l g) := by
  show l.foldl (fun a i => e.mrg a (g i)) (e.mrg e.empty (g i)) = _
  rw [mrg_empty_left hv hp (hg i), foldl_mrg_eq_msum hv hp g hg l _ (hg i)]

theorem msum_empty {α : Type} (l : List α) : msum e l (fun _ => e.empty) = e.empty :=
  foldl_mrg_empty hv hp _ l _ (wf_empty e) (fun _ _ => rfl)

omit hv hp in
theorem msum_congr {α : Type} (l : List α) (g g' : α → List Cell) (h : ∀ i ∈ l, g i = g' i) :
    msum e l g = msum e l g' := foldl_mrg_congr e g g' l _ h

theorem msum_mrg {α : Type} (g h : α → List Cell) (hg : ∀ i, WF e (g i)) (hh : ∀ i, WF e (h i)) :
    ∀ l : List α, msum e l (fun i => e.mrg (g i) (h i)) = e.mrg (msum e l g) (msum e l h) := by
  intro l
  induction l with
  | nil => exact (mrg_empty_empty hv hp).symm
  | cons i l ih =>
    rw [msum_cons hv hp _ (fun i => mrg_wf hv hp (hg i) (hh i)), msum_cons hv hp g hg, msum_cons hv hp h hh, ih,
      mrg_medial hv hp (hg i) (hh i) (msum_wf hv hp l g hg) (msum_wf hv hp l h hh)]

theorem msum_exchange {α β : Type} (G : α → β → List Cell) (hG : ∀ j t, WF e (G j t)) (ts : List β) :
    ∀ js : List α, msum e js (fun j => msum e ts (G j)) = msum e ts (fun t => msum e js (fun j => G j t)) := by
  intro js
  induction js with
  | nil => exact (msum_empty hv hp ts).symm
  | cons j js ih =>
    rw [msum_cons hv hp _ (fun j => msum_wf hv hp ts (G j) (hG j)), ih,
      ← msum_mrg hv hp (G j) _ (hG j) (fun t => msum_wf hv hp js _ (fun j => hG j t))]
    apply msum_congr
    intro t _
    exact (msum_cons hv hp (fun j => G j t) (fun j => hG j t) j js).symm

theorem foldl_mrg_exchange {α β : Type} (G : α → β → List Cell) (hG : ∀ j t, WF e (G j t)) (js : List α)
    (ts : List β) (a0 : List Cell) (h0 : WF e a0) :
    js.foldl (fun a j => ts.foldl (fun a t => e.mrg a (G j t)) a) a0 =
      ts.foldl (fun a t => js.foldl (fun a j => e.mrg a (G j t)) a) a0 := by
  have inner : ∀ {γ δ : Type} (H : γ → δ → List Cell), (∀ c d, WF e (H c d)) → ∀ (ds : List δ) (cs : List γ),
      cs.foldl (fun a c => ds.foldl (fun a d => e.mrg a (H c d)) a) a0 =
        e.mrg a0 (msum e cs (fun c => msum e ds (H c))) := by
    intro γ δ H hH ds cs
    rw [← foldl_mrg_eq_msum hv hp _ (fun c => msum_wf hv hp ds (H c) (hH c)) cs a0 h0]
    exact foldl_congr_on _ _ (WF e) cs a0 h0 fun a ha c _ =>
      ⟨foldl_mrg_eq_msum hv hp (H c) (hH c) ds a ha, mrg_wf hv hp ha (msum_wf hv hp ds (H c) (hH c))⟩
  rw [inner G hG ts js, inner (fun t j => G j t) (fun t j => hG j t) js ts, msum_exchange hv hp G hG ts js]

end

/-- the stored state of scanned column `j` of a scan row at the native period ending at `t` -/
def colAt (subs : List Ex) (rcols : List Sq) (otherRes : Int) (t : Int) (j : Nat) : List Cell :=
  (rcols.getD j none).at (subs.getD j (.const 0)) otherRes t

/-- the state of `e` assembled from the columns of one scan row at the native period ending at `t` -/
def rowState (e : Ex) (subs : List Ex) (p : Pt) (rcols : List Sq) (otherRes : Int) (t : Int) : List Cell :=
  e.assemble subs p (colAt subs rcols otherRes t)

theorem colAt_of_getElem? {subs : List Ex} {j : Nat} {cj : Ex} (hj : subs[j]? = some cj) (rcols : List Sq)
    (otherRes t : Int) : colAt subs rcols otherRes t j = (rcols.getD j none).at cj otherRes t := by
  rw [colAt, getD_of_getElem? hj]

theorem colAt_wf {subs : List Ex} {otherRes : Int} {rcols : List Sq} (hc : RowColsOk subs otherRes rcols) (t : Int) :
    ∀ i s, subs[i]? = some s → WF s (colAt subs rcols otherRes t i) := by
  intro i s hs
  rw [colAt_of_getElem? hs]
  exact sqAt_wf (hc.2 i s hs).2 otherRes t

theorem rowState_wf (e : Ex) {subs : List Ex} {otherRes : Int} {rcols : List Sq} (hc : RowColsOk subs otherRes rcols)
    (p : Pt) (t : Int) : WF e (rowState e subs p rcols otherRes t) :=
  assemble_wf subs p _ (colAt_wf hc t) e

theorem mergeOnto_wf {e : Ex} (hv : e.valid = true) (hp : e.noPtile = true) (otherRes : Int) (other : Sq)
    (hwo : SqWF e other) (ts : List Int) (acc : List Cell) (ha : WF e acc) : WF e (mergeOnto e otherRes other ts acc) :=
  foldl_mrg_wf hv hp _ (fun t => sqAt_wf hwo otherRes t) ts acc ha

theorem mergeAllOnto_cols {e : Ex} (hv : e.valid = true) (hp : e.noPtile = true) (hs : e.shiftFree = true)
    {subs : List Ex} {otherRes : Int} {rcols : List Sq} (hc : RowColsOk subs otherRes rcols) (p : Pt)
    (ts : List Int) (a : List Cell) (ha : WF e a) :
    mergeAllOnto e otherRes (rowSrcs e subs p rcols) ts a =
      (List.range subs.length).foldl
        (fun a j => ts.foldl (fun a t => e.mrg a (colImage e subs j p (colAt subs rcols otherRes t j))) a) a := by
  unfold mergeAllOnto rowSrcs
  rw [List.foldl_filterMap]
  refine foldl_congr_on _ _ (WF e) _ a ha ?_
  intro a ha j hj
  have hsj := List.getElem?_eq_getElem (List.mem_range.mp hj)
  have hwa := fun t => colAt_wf hc t j _ hsj
  refine ⟨?_, foldl_mrg_wf hv hp _ (fun t => colImage_wf e hsj p (hwa t)) ts a ha⟩
  simp only [colSrc]
  cases hsm : colSM e subs j with
  | none =>
    exact (foldl_mrg_empty hv hp _ ts a ha (fun t _ => colImage_none hv hp hs hsj hsm p (hwa t))).symm
  | some sm =>
    apply foldl_mrg_congr
    intro t _
    rw [colAt_of_getElem? hsj]
    exact at_mapSq _ (colImage_empty e hsj p) _ otherRes t

theorem mergeAllOnto_row {e : Ex} (hv : e.valid = true) (hp : e.noPtile = true) (hs : e.shiftFree = true)
    {subs : List Ex} {otherRes : Int} {rcols : List Sq} (hc : RowColsOk subs otherRes rcols) (p : Pt)
    (ts : List Int) (a : List Cell) (ha : WF e a) :
    mergeAllOnto e otherRes (rowSrcs e subs p rcols) ts a =
      ts.foldl (fun a t => e.mrg a (rowState e subs p rcols otherRes t)) a := by
  rw [mergeAllOnto_cols hv hp hs hc p ts a ha,
    foldl_mrg_exchange hv hp (fun j t => colImage e subs j p (colAt subs rcols otherRes t j))
      (fun j t => assemble_single_wf subs p j _ (colAt_wf hc t j) e) _ ts a ha]
  apply foldl_congr_on _ _ (WF e) ts a ha
  intro a ha t _
  exact ⟨asmSum_all subs p (colAt subs rcols otherRes t) (colAt_wf hc t) e hv hp a ha,
    mrg_wf hv hp ha (rowState_wf e hc p t)⟩

/-- the leaf-wise merge over the member rows `l` and the periods `ts` -/
def leafwise (e : Ex) (subs : List Ex) (metas : List KeyMeta) (otherRes : Int) (l : List Row) (ts : List Int)
    (a : List Cell) : List Cell :=
  l.foldl (fun a r => ts.foldl (fun a t => e.mrg a (rowState e subs (rowPt metas r) r.cols otherRes t)) a) a

theorem sem_groupRows_leafwise_lem {cfg : TableCfg} {now : Int} {q : Query} {pl : Plan} {inFields : List Field}
    {rows : List Row} {kk i : Nat} {f : Field} (H : DerivedCell cfg now q pl inFields rows kk i f)
    (metas : List KeyMeta) (k : Key) (T : Int) (hT : (gUntilOf cfg now pl - T) % gResOf cfg pl = 0) :
    (groupCell cfg now q pl inFields metas rows k i).at f.ex (gResOf cfg pl) T =
      if gAsOfOf cfg now pl < T ∧ T ≤ gUntilOf cfg now pl
      then leafwise f.ex (inFields.map (·.ex)) metas cfg.res (groupMembers q rows k)
        (bucketTimes cfg.res kk (gAsOfOf cfg now pl) (gUntilOf cfg now pl) T) f.ex.empty
      else f.ex.empty := by
  rw [sem_groupRows_derived_lem H metas k T hT]
  split
  · unfold derivedSrcs mergeAllOnto
    rw [List.foldl_flatMap]
    refine foldl_congr_on _ _ (WF f.ex) _ _ (wf_empty _) fun a ha r hr => ?_
    have hc := H.scan r (List.mem_filter.mp hr).1
    exact ⟨mergeAllOnto_row H.valid H.noPtile H.shiftFree hc _ _ a ha,
      foldl_mrg_wf H.valid H.noPtile _ (fun t => rowState_wf f.ex hc _ t) _ a ha⟩
  · rfl

end Zeno
