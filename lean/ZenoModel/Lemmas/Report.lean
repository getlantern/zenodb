/-
The callback protocol of the query path (C13, M-REPORT): the cases of a `Reply` and of a `Guard`'s answer,
`Fed` / `Polite` (how a callback was called), `Inv` (the statement of C13 for one plan, under
`Cfg.Fixed`) with the lemmas on `told`, the stream operators (`StepOK`; `wrap_polite` is the one
simulation argument shared by all of them), and the sinks at the end of the chain (collectors,
the caller's recording callback).
-/
import ZenoModel.Model.Report

namespace Zeno.Report

theorem Reply.ok_iff (r : Reply) : r.ok = true ↔ r = Reply.proceed := by
  cases r with
  | mk m e => cases m <;> cases e <;> simp [Reply.ok, Reply.proceed]

theorem Reply.not_ok_of_err {r : Reply} (h : r.err ≠ none) : r.ok = false := by
  cases r with
  | mk m e => cases m <;> cases e <;> simp_all [Reply.ok]

theorem Reply.ok_false_noerr {r : Reply} (h : r.ok = false) (he : r.err = none) : r.more = false := by
  cases r with
  | mk m e => cases m <;> cases e <;> simp_all [Reply.ok]

theorem Reply.err_of_ok {r : Reply} (h : r.ok = true) : r.err = none := by
  rw [(Reply.ok_iff r).1 h]
  rfl

theorem Guard.proceed_cases (g : Guard) (now : Nat) :
    g.proceed now = Reply.proceed ∨ g.proceed now = Reply.fail .deadline := by
  unfold Guard.proceed; split <;> simp

theorem Guard.proceedAfter_eq (g : Guard) (now : Nat) (r : Reply) :
    g.proceedAfter now r = if r.ok then g.proceed now else r := by
  cases r with
  | mk m e => cases m <;> cases e <;> simp [Guard.proceedAfter, Reply.ok]

theorem Guard.proceedAfter_cases (g : Guard) (now : Nat) (r : Reply) :
    g.proceedAfter now r = r ∨ (r.ok = true ∧ (g.proceedAfter now r).err ≠ none) := by
  rw [g.proceedAfter_eq]
  split
  · rename_i hk
    rcases g.proceed_cases now with hp | hp
    · exact Or.inl (by rw [hp, (Reply.ok_iff r).1 hk])
    · exact Or.inr ⟨hk, by rw [hp]; simp [Reply.fail]⟩
  · exact Or.inl rfl

/-- The callback `s`, starting in state `st`, was called on exactly `rows`, in order; every call
    but the last answered `(true, nil)`; `rep` is the last answer (`proceed` when there was no
    call or the last call also answered `(true, nil)`); `st'` is the state afterwards.  The clock
    is existential: a source may take any time between calls. -/
inductive Fed {σ : Type} (s : Sink σ) : σ → List Row → σ → Reply → Prop where
  | nil (st : σ) : Fed s st [] st Reply.proceed
  | last {st : σ} {now : Nat} {r : Row} {st' : σ} {now' : Nat} {rep : Reply} :
      s.onRow st now r = (st', now', rep) → rep.ok = false → Fed s st [r] st' rep
  | cons {st : σ} {now : Nat} {r : Row} {st1 : σ} {now1 : Nat} {rep1 : Reply}
      {rs : List Row} {st' : σ} {rep : Reply} :
      s.onRow st now r = (st1, now1, rep1) → rep1.ok = true → Fed s st1 rs st' rep →
      Fed s st (r :: rs) st' rep

theorem Fed.append {σ : Type} {s : Sink σ} {st st1 st' : σ} {a b : List Row} {rep1 rep : Reply}
    (h1 : Fed s st a st1 rep1) (hok : rep1.ok = true) (h2 : Fed s st1 b st' rep) :
    Fed s st (a ++ b) st' rep := by
  induction h1 with
  | nil _ => simpa using h2
  | last _ hno => rw [hno] at hok; cases hok
  | cons he hk _ ih => exact Fed.cons he hk (ih hok h2)

theorem feed_fed {σ : Type} (s : Sink σ) (st : σ) (now : Nat) (rows : List Row) :
    ∃ m, m ≤ rows.length ∧ Fed s st (rows.take m) (feed s st now rows).1 (feed s st now rows).2.2 ∧
      ((feed s st now rows).2.2.ok = true → m = rows.length) := by
  fun_induction feed s st now rows with
  | case1 st => exact ⟨0, Nat.le_refl _, Fed.nil _, fun _ => rfl⟩
  | case2 st now r rs st1 d1 rep1 hr hk st2 d2 rep2 hrec ih =>
    rw [hrec] at ih
    obtain ⟨m, hm, hf, hc⟩ := ih
    exact ⟨m + 1, Nat.succ_le_succ hm, Fed.cons hr hk hf, fun ho => by rw [hc ho]; rfl⟩
  | case3 st now r rs st1 d1 rep1 hr hk =>
    have hk' : rep1.ok = false := by simpa using hk
    exact ⟨1, by simp, Fed.last hr hk', fun ho => by rw [hk'] at ho; cases ho⟩

theorem feed_append {σ : Type} (s : Sink σ) (a b : List Row) (st : σ) (now : Nat) :
    feed s st now (a ++ b) =
      if (feed s st now a).2.2.ok then
        ((feed s (feed s st now a).1 (now + (feed s st now a).2.1) b).1,
         (feed s st now a).2.1 + (feed s (feed s st now a).1 (now + (feed s st now a).2.1) b).2.1,
         (feed s (feed s st now a).1 (now + (feed s st now a).2.1) b).2.2)
      else feed s st now a := by
  fun_induction feed s st now a with
  | case1 st => simp [Reply.ok, Reply.proceed]
  | case2 st now r rs st1 d1 rep1 hr hk st2 d2 rep2 hrec ih =>
    rw [hrec] at ih
    simp only [List.cons_append, feed, hr, hk, if_true, ih]
    split <;> simp [Nat.add_assoc]
  | case3 st now r rs st1 d1 rep1 hr hk =>
    simp [feed, hr, hk]

/-- `s` was fed a prefix of `l` (in the sense of `Fed`), no call answered with an error, and if
    the prefix is proper then `s` itself asked to stop. -/
def Polite {σ : Type} (s : Sink σ) (st : σ) (l : List Row) (st' : σ) : Prop :=
  ∃ m rep, Fed s st (l.take m) st' rep ∧ rep.err = none ∧ (rep.more = true → l.length ≤ m)

theorem Polite.of_fed_complete {σ : Type} {s : Sink σ} {st st' : σ} {l : List Row} {rep : Reply}
    (h : Fed s st l st' rep) (he : rep.err = none) : Polite s st l st' :=
  ⟨l.length, rep, by simpa using h, he, fun _ => Nat.le_refl _⟩

theorem feed_polite {σ : Type} (s : Sink σ) (st : σ) (now : Nat) (rows : List Row)
    (he : (feed s st now rows).2.2.err = none) : Polite s st rows (feed s st now rows).1 := by
  obtain ⟨m, _, hf, hc⟩ := feed_fed s st now rows
  exact ⟨m, _, hf, he, fun hm => Nat.le_of_eq (hc (by simp [Reply.ok, hm, he])).symm⟩

theorem Polite.nil {σ : Type} (s : Sink σ) (st : σ) : Polite s st [] st :=
  Polite.of_fed_complete (Fed.nil st) rfl

theorem Polite.cons {σ : Type} {s : Sink σ} {st st1 st' : σ} {now : Nat} {d : Nat} {r : Row} {rs : List Row}
    {rep1 : Reply} (hr : s.onRow st now r = (st1, d, rep1)) (hk : rep1.ok = true)
    (h : Polite s st1 rs st') : Polite s st (r :: rs) st' := by
  obtain ⟨m, rep, hf, he, hc⟩ := h
  exact ⟨m + 1, rep, Fed.cons hr hk hf, he, fun hm => Nat.succ_le_succ (hc hm)⟩

theorem Polite.stop {σ : Type} {s : Sink σ} {st st' : σ} {now : Nat} {d : Nat} {r : Row} (rs : List Row)
    {rep : Reply} (hr : s.onRow st now r = (st', d, rep)) (hk : rep.ok = false) (he : rep.err = none) :
    Polite s st (r :: rs) st' :=
  ⟨1, rep, Fed.last hr hk, he, fun hm => by rw [Reply.ok_false_noerr hk he] at hm; cases hm⟩

theorem Polite.append_fed {σ : Type} {s : Sink σ} {st st1 st' : σ} {a b : List Row} {rep1 : Reply}
    (h1 : Fed s st a st1 rep1) (hok : rep1.ok = true) (h2 : Polite s st1 b st') : Polite s st (a ++ b) st' := by
  obtain ⟨m, rep, hf, he, hc⟩ := h2
  refine ⟨a.length + m, rep, ?_, he, fun hm => by simpa using hc hm⟩
  rw [List.take_length_add_append]
  exact Fed.append h1 hok hf

theorem Polite.of_take {σ : Type} {s : Sink σ} {st st' : σ} {l : List Row} {k : Nat}
    (h : Polite s st (l.take k) st') (hfull : l.length ≤ k ∨ ∃ m rep, Fed s st ((l.take k).take m) st' rep ∧ rep.err = none ∧ rep.more = false) :
    Polite s st l st' := by
  rcases hfull with hk | ⟨m, rep, hf, he, hm⟩
  · rwa [List.take_of_length_le hk] at h
  · refine ⟨min m k, rep, ?_, he, fun h' => by rw [hm] at h'; cases h'⟩
    rwa [List.take_take] at hf

theorem Polite.nil_inv {σ : Type} {s : Sink σ} {st st' : σ} (h : Polite s st [] st') : st' = st := by
  obtain ⟨m, rep, hf, _, _⟩ := h
  rw [List.take_nil] at hf
  cases hf
  rfl

theorem Polite.uncons {σ : Type} {s : Sink σ} {st st' : σ} {r : Row} {rs : List Row} (h : Polite s st (r :: rs) st') :
    ∃ now st1 d rep, s.onRow st now r = (st1, d, rep) ∧ rep.err = none ∧
      (rep.ok = true → Polite s st1 rs st') ∧ (rep.ok = false → st1 = st') := by
  obtain ⟨m, rep, hf, he, hc⟩ := h
  cases m with
  | zero =>
    rw [List.take_zero] at hf
    cases hf
    exact absurd (hc rfl) (by simp)
  | succ m =>
    rw [List.take_succ_cons] at hf
    generalize htk : rs.take m = t at hf
    cases hf with
    | last hr hk => exact ⟨_, _, _, _, hr, he, fun ho => (by rw [hk] at ho; cases ho), fun _ => rfl⟩
    | cons hr hk ht =>
      subst htk
      exact ⟨_, _, _, _, hr, Reply.err_of_ok hk, fun _ => ⟨m, rep, ht, he, fun hm => Nat.le_of_succ_le_succ (hc hm)⟩,
        fun ho => (by rw [hk] at ho; cases ho)⟩

theorem Polite.induct {σ : Type} {s : Sink σ} {st' : σ} {motive : σ → List Row → Prop}
    (nil : motive st' [])
    (stop : ∀ {st : σ} {now : Nat} {r : Row} {d : Nat} {rep : Reply} (rs : List Row),
      s.onRow st now r = (st', d, rep) → rep.ok = false → rep.err = none → motive st (r :: rs))
    (cons : ∀ {st : σ} {now : Nat} {r : Row} {st1 : σ} {d : Nat} {rep : Reply} {rs : List Row},
      s.onRow st now r = (st1, d, rep) → rep.ok = true → motive st1 rs → motive st (r :: rs))
    {st : σ} {l : List Row} (h : Polite s st l st') : motive st l := by
  induction l generalizing st with
  | nil =>
    rw [← h.nil_inv]
    exact nil
  | cons r rs ih =>
    obtain ⟨now, st1, d, rep, hr, he, hok, hno⟩ := h.uncons
    cases hk : rep.ok with
    | true => exact cons hr hk (ih (hok hk))
    | false =>
      rw [hno hk] at hr
      exact stop rs hr hk he

/-- all C13 fixes applied (the coalescing mode is free) -/
def Cfg.Fixed (c : Cfg) : Prop :=
  c.d3 = true ∧ c.d15 = true ∧ c.d4 = true ∧ c.subq = true ∧ c.subqStats = true ∧ c.recover = true

/-- whatever callback `p` is iterated with — if the caller is not told (no error, statistics not
    partial), the callback was politely fed a prefix of some fault-free output of `p`, and a
    proper prefix only because the callback itself asked to stop -/
def Inv (env : Env) (p : Plan) : Prop :=
  ∀ {σ : Type} (s : Sink σ) (st : σ) (now : Nat), (iterate env p s st now).told = false →
    ∃ l, Out p l ∧ Polite s st l (iterate env p s st now).st

theorem Res.told_eq_false_iff {σ : Type} (r : Res σ) :
    r.told = false ↔ r.err = none ∧ ∀ st, r.stats = some st → st.partial_ = false := by
  unfold Res.told
  cases r.err <;> cases r.stats <;> simp

theorem Outcome.told_cases {o : Outcome} (he : o.err = none) :
    o.told = false ∨ ∃ st, o.stats = some st ∧ st.partial_ = true := by
  unfold Outcome.told
  cases o.stats with
  | none => simp [he]
  | some st => cases hp : st.partial_ <;> simp [he, hp]

theorem Res.told_mapSt {σ τ : Type} (r : Res σ) (f : σ → τ) : (r.mapSt f).told = r.told := rfl

/-- fault-free behaviour of a wrapper: rows forwarded for each incoming row, state after it -/
def specRun {τ : Type} (F : τ → Row → List Row) (nx : τ → Row → τ) : τ → List Row → List Row
  | _, [] => []
  | x, r :: rs => F x r ++ specRun F nx (nx x r) rs

/-- A stream operator reports its own truncation and propagates its downstream's reply:
    * when it calls downstream, it forwards exactly the rows of its specification;
    * when it answers by itself, it answers with an error, or `(true, nil)` for a row that
      contributes nothing, or `stop()` once nothing can contribute any more (LIMIT reached);
    * it hands the downstream's reply upwards unchanged, or turns a `(true, nil)` into an error. -/
structure StepOK {τ : Type} (stp : Step τ) (I : τ → Prop) (F : τ → Row → List Row) (nx : τ → Row → τ) : Prop where
  pre_ok : ∀ x now r, I x →
    match stp.pre x now r with
    | (x1, _, .forward rs) => rs = F x r ∧ x1 = nx x r ∧ I x1
    | (x1, _, .reply rep) =>
        rep.err ≠ none ∨
        (rep = Reply.proceed ∧ F x r = [] ∧ x1 = nx x r ∧ I x1) ∨
        (rep = Reply.stop ∧ F x r = [] ∧ x1 = nx x r ∧ I x1 ∧ ∀ rows, specRun F nx x1 rows = [])
  post_ok : ∀ x now rep,
    (stp.post x now rep).1 = x ∧
    ((stp.post x now rep).2 = rep ∨ (rep.ok = true ∧ (stp.post x now rep).2.err ≠ none))

theorem wrap_call {τ σ : Type} {stp : Step τ} {I : τ → Prop} {F : τ → Row → List Row} {nx : τ → Row → τ}
    (ok : StepOK stp I F nx) (s : Sink σ) {x x1 : τ} {st st1 : σ} {now d : Nat} {r : Row} {rep : Reply}
    (hI : I x) (hw : (wrap stp s).onRow (x, st) now r = ((x1, st1), d, rep)) (he : rep.err = none) :
    x1 = nx x r ∧ I x1 ∧ (rep.ok = true → Fed s st (F x r) st1 Reply.proceed) ∧
      (rep.ok = false → ∀ rs, Polite s st (F x r ++ specRun F nx x1 rs) st1) := by
  have hp := ok.pre_ok x now r hI
  simp only [wrap] at hw
  generalize stp.pre x now r = pr at hw hp
  obtain ⟨xa, d0, act⟩ := pr
  cases act with
  | reply rep0 =>
    simp only [Prod.mk.injEq] at hw
    obtain ⟨⟨rfl, rfl⟩, _, rfl⟩ := hw
    rcases hp with hp | ⟨rfl, hF, hx, hI1⟩ | ⟨rfl, hF, hx, hI1, hd⟩
    · exact absurd he hp
    · exact ⟨hx, hI1, fun _ => hF ▸ Fed.nil st, fun h => (by cases h)⟩
    · exact ⟨hx, hI1, fun h => (by cases h), fun _ rs => by rw [hF, hd]; exact Polite.nil s st⟩
  | forward rows0 =>
    simp only at hw hp
    obtain ⟨rfl, hx, hI1⟩ := hp
    generalize hfd : feed s st (now + d0) (F x r) = fd at hw
    obtain ⟨stb, d1, repf⟩ := fd
    simp only [Prod.mk.injEq] at hw
    obtain ⟨⟨hxa, rfl⟩, _, hrep⟩ := hw
    obtain ⟨hpx, hpr⟩ := ok.post_ok xa (now + d0 + d1) repf
    -- no error came out, so the downstream's reply came up unchanged
    have hrep' : repf = rep := by
      rcases hpr with h | ⟨_, h⟩
      · rw [← h, hrep]
      · rw [hrep] at h; exact absurd he h
    subst hrep'
    obtain ⟨m, hm, hf, hc⟩ := feed_fed s st (now + d0) (F x r)
    rw [hfd] at hf hc
    refine ⟨by rw [← hxa, hpx, hx], by rw [← hxa, hpx]; exact hI1, fun hk => ?_, fun hk rs => ?_⟩
    · rw [hc hk, List.take_length, (Reply.ok_iff _).1 hk] at hf
      exact hf
    · exact ⟨m, repf, by rwa [List.take_append_of_le_length hm], he,
        fun h => by rw [Reply.ok_false_noerr hk he] at h; cases h⟩

/-- a wrapper that was fed politely has fed its downstream politely with the rows of its
    specification -/
theorem wrap_polite {τ σ : Type} {stp : Step τ} {I : τ → Prop} {F : τ → Row → List Row} {nx : τ → Row → τ}
    (ok : StepOK stp I F nx) (s : Sink σ) (x : τ) (st : σ) (x' : τ) (st' : σ) (l : List Row)
    (hI : I x) (h : Polite (wrap stp s) (x, st) l (x', st')) :
    Polite s st (specRun F nx x l) st' := by
  refine Polite.induct (motive := fun X l => I X.1 → Polite s X.2 (specRun F nx X.1 l) st') ?_ ?_ ?_ h hI
  · exact fun _ => Polite.nil s st'
  · intro X now r d rep rs hr hk he hI
    obtain ⟨hx, _, _, hno⟩ := wrap_call ok s hI hr he
    rw [hx] at hno
    exact hno hk rs
  · intro X now r X1 d rep rs hr hk ih hI
    obtain ⟨hx, hI1, hfed, _⟩ := wrap_call ok s hI hr (Reply.err_of_ok hk)
    have htail := ih hI1
    rw [hx] at htail
    exact Polite.append_fed (hfed hk) rfl htail

theorem specRun_const {τ : Type} (f : Row → List Row) (nx : τ → Row → τ) :
    ∀ (rows : List Row) (x : τ), specRun (fun _ => f) nx x rows = rows.flatMap f
  | [], _ => rfl
  | r :: rs, x => by simp [specRun, specRun_const f nx rs]

theorem specRun_id {τ : Type} (nx : τ → Row → τ) (rows : List Row) (x : τ) :
    specRun (fun _ r => [r]) nx x rows = rows := by
  rw [specRun_const, List.flatMap_singleton']

def limitF (n : Nat) : Nat → Row → List Row := fun idx r => if idx < n then [r] else []
def idxNx : Nat → Row → Nat := fun idx _ => idx + 1

theorem specRun_limit (n : Nat) : ∀ (rows : List Row) (idx : Nat), specRun (limitF n) idxNx idx rows = rows.take (n - idx)
  | [], _ => by simp [specRun]
  | r :: rs, idx => by
    by_cases h : idx < n
    · have e : n - idx = (n - (idx + 1)) + 1 := by omega
      simp [specRun, limitF, h, idxNx, specRun_limit n rs (idx + 1), e]
    · have e : n - idx = 0 := by omega
      have e' : n - (idx + 1) = 0 := by omega
      simp [specRun, limitF, h, idxNx, specRun_limit n rs (idx + 1), e, e']

theorem limitStep_ok (n : Nat) : StepOK (limitStep n) (fun _ => True) (limitF n) idxNx where
  pre_ok := by
    intro idx now r _
    by_cases h : idx < n
    · simp [limitStep, h, limitF, idxNx]
    · -- the limit is reached: nothing more is taken
      have h0 : n - (idx + 1) = 0 := by omega
      simp [limitStep, h, limitF, idxNx, specRun_limit, h0, Reply.stop, Reply.proceed]
  post_ok := fun _ _ _ => ⟨rfl, Or.inl rfl⟩

def offsetF (n : Nat) : Nat → Row → List Row := fun idx r => if n ≤ idx then [r] else []

theorem specRun_offset (n : Nat) : ∀ (rows : List Row) (idx : Nat), specRun (offsetF n) idxNx idx rows = rows.drop (n - idx)
  | [], _ => by simp [specRun]
  | r :: rs, idx => by
    by_cases h : n ≤ idx
    · have e : n - idx = 0 := by omega
      have e' : n - (idx + 1) = 0 := by omega
      simp [specRun, offsetF, h, idxNx, specRun_offset n rs (idx + 1), e, e']
    · have e : n - idx = (n - (idx + 1)) + 1 := by omega
      simp [specRun, offsetF, h, idxNx, specRun_offset n rs (idx + 1), e]

theorem offsetStep_ok (g : Guard) (n : Nat) : StepOK (offsetStep g n) (fun _ => True) (offsetF n) idxNx where
  pre_ok := by
    intro idx now r _
    by_cases h : n ≤ idx
    · simp [offsetStep, h, offsetF, idxNx]
    · simp only [offsetStep, h, if_false]
      rcases g.proceed_cases now with hp | hp
      · exact Or.inr (Or.inl ⟨hp, by simp [offsetF, h], rfl, trivial⟩)
      · exact Or.inl (by rw [hp]; simp [Reply.fail])
  post_ok := fun _ _ _ => ⟨rfl, Or.inl rfl⟩

def inclF (incl : Row → Incl) : Unit → Row → List Row := fun _ r =>
  match incl r with
  | .keep r' => [r']
  | _ => []
def unitNx : Unit → Row → Unit := fun _ _ => ()

/-- the rows a filter lets through -/
def Incl.toOption : Incl → Option Row
  | .keep r => some r
  | _ => none

theorem specRun_filter (incl : Row → Incl) : ∀ (rows : List Row) (x : Unit),
    specRun (inclF incl) unitNx x rows = rows.filterMap (fun r => (incl r).toOption)
  | [], _ => rfl
  | r :: rs, x => by
    simp only [specRun, unitNx, specRun_filter incl rs (), List.filterMap_cons, inclF]
    cases incl r <;> simp [Incl.toOption]

theorem filterStep_ok (g : Guard) (incl : Row → Incl) : StepOK (filterStep g incl) (fun _ => True) (inclF incl) unitNx where
  pre_ok := by
    intro x now r _
    simp only [filterStep, inclF]
    cases h : incl r with
    | err e => exact Or.inl (by simp [Reply.fail])
    | keep r' => simp
    | drop =>
      simp only
      rcases g.proceed_cases now with hp | hp
      · refine Or.inr (Or.inl ?_)
        simp [hp]
      · exact Or.inl (by rw [hp]; simp [Reply.fail])
  post_ok := fun _ _ _ => ⟨rfl, Or.inl rfl⟩

theorem flattenStep_ok (g : Guard) (fl : Row → List Row) : StepOK (flattenStep g fl) (fun _ => True) (fun _ r => fl r) unitNx where
  pre_ok := by intro x now r _; simp [flattenStep, unitNx]
  post_ok := fun _ now rep => ⟨rfl, by
    simp only [flattenStep, ← g.proceedAfter_eq]
    exact g.proceedAfter_cases now rep⟩

theorem unflattenStep_ok (f : Row → Row) : StepOK (unflattenStep f) (fun _ => True) (fun _ r => [f r]) unitNx where
  pre_ok := by intro x now r _; simp [unflattenStep, unitNx]
  post_ok := fun _ _ _ => ⟨rfl, Or.inl rfl⟩

theorem guardStep_ok (g : Guard) : StepOK (guardStep g) (fun _ => True) (fun _ r => [r]) unitNx where
  pre_ok := by intro x now r _; simp [guardStep, unitNx]
  post_ok := fun _ now rep => ⟨rfl, g.proceedAfter_cases now rep⟩

theorem recoverStep_ok : StepOK (recoverStep true) (fun _ => True) (fun _ r => [r]) unitNx where
  pre_ok := by intro x now r _; simp [recoverStep, unitNx]
  post_ok := by intro x now rep; simp [recoverStep]

theorem oomStep_ok (oomAt : Option Nat) : StepOK (oomStep oomAt) (fun _ => True) (fun _ r => [r]) idxNx where
  pre_ok := by
    intro i now r _
    by_cases hc : oomHit oomAt i = true
    · simp only [oomStep, hc, if_true]
      exact Or.inl (by simp [Reply.fail])
    · simp only [oomStep, hc]
      simp [idxNx]
  post_ok := fun _ _ _ => ⟨rfl, Or.inl rfl⟩

theorem collector_of_polite {α : Type} {s : Sink (List α)} {f : Row → α}
    (hs : ∀ acc now r, (s.onRow acc now r).1 = acc ++ [f r] ∧
      ((s.onRow acc now r).2.2.ok = false → (s.onRow acc now r).2.2.err ≠ none))
    {acc acc' : List α} {l : List Row} (h : Polite s acc l acc') : acc' = acc ++ l.map f := by
  refine Polite.induct (motive := fun acc l => acc' = acc ++ l.map f) ?_ ?_ ?_ h
  · simp
  · intro acc now r d rep rs hr hk he
    have := (hs acc now r).2
    rw [hr] at this
    exact absurd he (this hk)
  · intro acc now r acc1 d rep rs hr hk ih
    have := (hs acc now r).1
    rw [hr] at this
    simp [ih, show acc1 = acc ++ [f r] from this]

theorem collect_of_polite (g : Guard) {acc acc' l : List Row} (h : Polite (collectSink g) acc l acc') :
    acc' = acc ++ l := by
  have := collector_of_polite (f := id) (fun acc now r => ⟨rfl, fun hk => ?_⟩) h
  · simpa using this
  · rcases g.proceed_cases now with hp | hp
    · simp [collectSink, hp, Reply.ok, Reply.proceed] at hk
    · simp [collectSink, hp, Reply.fail]

theorem dim_of_polite (dimOf : Row → Nat) {acc acc' : List Nat} {l : List Row} (h : Polite (dimSink dimOf) acc l acc') :
    acc' = acc ++ l.map dimOf :=
  collector_of_polite (fun _ _ _ => ⟨rfl, fun hk => by simp [dimSink, Reply.ok, Reply.proceed] at hk⟩) h

theorem user_step (f : UFault) (size : Row → Nat) (st : UState) (now : Nat) (r : Row) :
    ((userSink f size).onRow st now r).1.n = st.n + 1 ∧
    ((userSink f size).onRow st now r).1.rows =
      (if ((userSink f size).onRow st now r).2.2.ok then st.rows ++ [r] else st.rows) ∧
    (((userSink f size).onRow st now r).2.2.more = false → ((userSink f size).onRow st now r).2.2.err = none →
      f = .stopAt st.n) ∧
    (((userSink f size).onRow st now r).2.2.err = none → f ≠ .panicAt st.n) := by
  cases f with
  | none => simp [userSink, Reply.ok, Reply.proceed]
  | failAt k => by_cases hk : st.n = k <;> simp [userSink, hk, Reply.ok, Reply.proceed, Reply.fail]
  | stopAt k => by_cases hk : st.n = k <;> simp [userSink, hk, Reply.ok, Reply.proceed, Reply.stop]
  | sleepAt k d => by_cases hk : st.n = k <;> simp [userSink, hk, Reply.ok, Reply.proceed]
  | panicAt k => by_cases hk : st.n = k <;> simp [userSink, hk, Ne.symm, Reply.ok, Reply.proceed, Reply.fail]
  | sizeCap max => by_cases hk : max < st.est + size r <;> simp [userSink, hk, Reply.ok, Reply.proceed, Reply.fail]

theorem user_fed (f : UFault) (size : Row → Nat) {rows : List Row} {st st' : UState} {rep : Reply}
    (h : Fed (userSink f size) st rows st' rep) :
    st'.rows = st.rows ++ (if rep.ok then rows else rows.dropLast) ∧
    (rep.more = false → rep.err = none → f.stopped st' = true) := by
  induction h with
  | nil s0 => simp [Reply.ok, Reply.proceed]
  | @last s0 now r s1 d rp hr hk =>
    have hs := user_step f size s0 now r
    simp only [hr] at hs
    obtain ⟨hn, hrows, hst, _⟩ := hs
    refine ⟨by simp [hrows, hk], fun hm he => ?_⟩
    rw [hst hm he]
    simp [UFault.stopped, hn]
  | @cons s0 now r s1 d rp rs s2 rp2 hr hk htail ih =>
    have hs := user_step f size s0 now r
    simp only [hr] at hs
    obtain ⟨_, hrows, _, _⟩ := hs
    refine ⟨?_, ih.2⟩
    rw [ih.1, hrows, hk]
    cases hk2 : rp2.ok with
    | true => simp
    | false =>
      -- the tail is non-empty: its last reply is not `proceed`
      cases htail with
      | nil => simp [Reply.ok, Reply.proceed] at hk2
      | last _ _ => simp
      | cons _ _ _ => simp [List.dropLast_cons_of_ne_nil]

theorem user_of_polite (f : UFault) (size : Row → Nat) (st' : UState) (l : List Row)
    (h : Polite (userSink f size) {} l st') :
    (∃ m, st'.rows = l.take m) ∧ (f.stopped st' = false → st'.rows = l) := by
  obtain ⟨m, rep, hf, he, hc⟩ := h
  obtain ⟨h1, h3⟩ := user_fed f size hf
  cases hm : rep.more with
  | true =>
    have hok : rep.ok = true := by simp [Reply.ok, hm, he]
    have h1' : st'.rows = l := by simpa [hok, List.take_of_length_le (hc hm)] using h1
    exact ⟨⟨l.length, by simp [h1']⟩, fun _ => h1'⟩
  | false =>
    have hok : rep.ok = false := by simp [Reply.ok, hm]
    have h1' : st'.rows = (l.take m).dropLast := by simpa [hok] using h1
    refine ⟨⟨min ((l.take m).length - 1) m, by rw [h1', List.dropLast_eq_take, List.take_take]⟩, fun hns => ?_⟩
    rw [h3 hm he] at hns
    cases hns

theorem panic_of_polite (k : Nat) (size : Row → Nat) {st st' : UState} {l : List Row}
    (h : Polite (userSink (.panicAt k) size) st l st') (hn : st.n ≤ k) : st'.n ≤ k := by
  refine Polite.induct (motive := fun st _ => st.n ≤ k → st'.n ≤ k) (fun h => h) ?_ ?_ h hn
  · intro st now r d rep rs hr _ he hn
    have hs := user_step (.panicAt k) size st now r
    simp only [hr] at hs
    obtain ⟨_, _, _, hnp⟩ := hs
    have : k ≠ st.n := fun hk => hnp he (hk ▸ rfl)
    omega
  · intro st now r st1 d rep rs hr hk ih hn
    have hs := user_step (.panicAt k) size st now r
    simp only [hr] at hs
    obtain ⟨_, _, _, hnp⟩ := hs
    have : k ≠ st.n := fun h => hnp (Reply.err_of_ok hk) (h ▸ rfl)
    exact ih (by omega)

end Zeno.Report
