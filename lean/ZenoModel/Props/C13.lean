/-
C13 — incomplete results are never presented as complete.

The model (`Model/Report.lean`) follows the Go query path branch for
branch in the callback protocol (`onRow(row) (more, err)`, `Iterate(..) (metadata, err)`);
it is tied to the code by the `report` correspondence engine, and the list of discarded
`error` results on the query path is regenerated from the Go source on every run
(`Generated/Facts.lean`, `errorDrops`).

Specification.  `Out p l` (Model/Report.lean): `l` is what plan `p` delivers when nothing goes
wrong — the table's rows, `take n`, `drop n`, `filterMap`, `flatMap`, the group / sort function
applied to the complete input, every partition's rows of a cluster query in any interleaving.
"Told" = non-nil error, or statistics with fewer successful than total partitions.

Main statement (`told_when_incomplete`): for every well-formed plan, dataset, deadline, fault
schedule of the sources (error at row k, sleep at row k, out-of-memory at check c, coalesced
foreign iteration with arbitrary behaviour, per-partition outcome and arrival order) and of
the caller's own callback (error at row k, sleep at row k, size cap): if the caller is not
told, the rows it received are exactly a fault-free output of the plan — unless the caller's
own callback asked to stop, in which case they are a prefix of one.  A LIMIT is part of the
plan (`Out (.limit n p) = take n`), so a LIMIT-induced stop is not a fault.

The theorems hold for the code after the fixes (`Cfg.Fixed`; the coalescing mode is free: they
hold for doProcessIterations as it is — `Coalesce.perIteration`: every iteration keeps its own
outcome — and as it was before, `Coalesce.abortAll`).
For each fix a concrete pre-fix witness (truncated rows, caller not told) is proved below.
-/
import ZenoModel.Lemmas.ReportPlan
import ZenoModel.Generated.Facts

/-! ## Hand-written expectations for the regenerated facts (the specification side) -/
namespace Zeno.ReportSpec
open Zeno

/-- how a discarded error on the query path is classified -/
inductive DropClass where
  /-- cannot hide a truncation (reason) -/
  | harmless (why : String)
  /-- the truncation it could hide is reported by other means (reason) -/
  | reportedOtherwise (why : String)
  /-- hides a truncation: never acceptable -/
  | swallowsTruncation
deriving DecidableEq, Repr

structure Expect where
  file : String
  func : String
  callee : String
  how : String
  cls : DropClass

def bufWrite : DropClass := .harmless "bytes.Buffer.WriteString never returns an error (log / String() text)"
def boltPut : DropClass :=
  .reportedOtherwise "bolt Put/Delete inside db.Update: a failed write leaves the entry pending or absent; the client gets 202/404, never truncated rows as success"
def httpWrite : DropClass := .harmless "writing the HTTP response body: the client sees a broken transfer"

/-- every site the extractor is expected to find on the query path (all `nth`) -/
def expectations : List Expect := [
  ⟨"cluster_query.go", "DB.queryCluster", "msg.WriteString", "stmt", bufWrite⟩,
  ⟨"core/format.go", "doFormatSource", "result.WriteString", "stmt", bufWrite⟩,
  ⟨"core/group.go", "group.String", "result.WriteString", "stmt", bufWrite⟩,
  ⟨"rpc/server/rpc_server.go", "server.HandleRemoteQueries", "onFields", "stmt",
    .harmless "queryCluster's onFields wrapper only enqueues the field list and always returns nil"⟩,
  ⟨"web/cache.go", "cache.getOrBegin", "cb.Put", "stmt", boltPut⟩,
  ⟨"web/cache.go", "cache.getOrBegin", "pb.Put", "stmt", boltPut⟩,
  ⟨"web/cache.go", "cache.begin", "cb.Put", "stmt", boltPut⟩,
  ⟨"web/cache.go", "cache.begin", "pb.Put", "stmt", boltPut⟩,
  ⟨"web/cache.go", "cache.put", "pb.Put", "stmt", boltPut⟩,
  ⟨"web/cache.go", "cache.put", "cb.Delete", "stmt", boltPut⟩,
  ⟨"web/cache.go", "cache.put", "cb.Put", "stmt", boltPut⟩,
  ⟨"web/query.go", "handler.sqlQuery", "url.QueryUnescape", "blank",
    .reportedOtherwise "a malformed escape leaves the raw text, which then fails in sql.Parse"⟩,
  ⟨"web/query.go", "handler.respondWithCacheEntry", "fmt.Fprint", "stmt", httpWrite⟩,
  ⟨"web/query.go", "handler.respondWithCacheEntry", "fmt.Fprintf", "stmt", httpWrite⟩,
  ⟨"web/query.go", "handler.respondSuccess", "resp.Write", "stmt", httpWrite⟩,
  ⟨"web/query.go", "handler.respondError", "resp.Write", "stmt", httpWrite⟩,
  ⟨"web/query.go", "handler.execQuery", "h.cache.put", "stmt",
    .reportedOtherwise "a failed cache write leaves the entry pending (202) or expired; the result is not served"⟩,
  ⟨"web/query.go", "handler.doQuery", "row.Key.Iterate", "stmt",
    .harmless "bytemap.ByteMap.Iterate has no error result (name shared with RowSource.Iterate; the extractor is syntactic)"⟩
]

def classify (d : Facts.ErrDrop) : Option DropClass :=
  (expectations.find? (fun e => e.file == d.file && e.func == d.func && e.callee == d.callee && e.how == d.how)).map (·.cls)

def acceptable : Option DropClass → Bool
  | some (.harmless _) => true
  | some (.reportedOtherwise _) => true
  | _ => false

end Zeno.ReportSpec

namespace Zeno.C13
open Zeno Zeno.Report Zeno.ReportSpec

/-! ## Each operator reports its own truncation and propagates its downstream's reply
(`StepOK`, Lemmas/Report.lean: what it forwards is its specification; when it answers by itself
it is an error, a `(true, nil)` for a row that contributes nothing, or `stop()` when nothing
can contribute any more; the downstream's reply goes up unchanged or becomes an error) -/

theorem limit_reports (n : Nat) : StepOK (limitStep n) (fun _ => True) (limitF n) idxNx := limitStep_ok n
theorem offset_reports (g : Guard) (n : Nat) : StepOK (offsetStep g n) (fun _ => True) (offsetF n) idxNx := offsetStep_ok g n
theorem filter_reports (g : Guard) (incl : Row → Incl) : StepOK (filterStep g incl) (fun _ => True) (inclF incl) unitNx :=
  filterStep_ok g incl
theorem flatten_reports (g : Guard) (fl : Row → List Row) : StepOK (flattenStep g fl) (fun _ => True) (fun _ r => fl r) unitNx :=
  flattenStep_ok g fl
theorem unflatten_reports (f : Row → Row) : StepOK (unflattenStep f) (fun _ => True) (fun _ r => [f r]) unitNx :=
  unflattenStep_ok f
theorem rowstore_guard_reports (g : Guard) : StepOK (guardStep g) (fun _ => True) (fun _ r => [r]) unitNx := guardStep_ok g
theorem memory_check_reports (oomAt : Option Nat) : StepOK (oomStep oomAt) (fun _ => True) (fun _ r => [r]) idxNx :=
  oomStep_ok oomAt

/-- sort: not told ⇒ it collected a complete input and emitted a prefix of the sorted rows that
    is proper only at the downstream's own request -/
theorem sort_reports (env : Env) (p : Plan) (sf : List Row → List Row) (h : Inv env p) : Inv env (.sort sf p) :=
  sort_inv env p sf h

theorem group_reports (env : Env) (p : Plan) (gs : GroupSpec) (h : Inv env p) : Inv env (.group gs p) :=
  group_inv env p gs h

/-- the table scan (file part, memstore part, row-store guard, coalescing fan-out in either
    mode, memory check) -/
theorem table_reports (env : Env) (hfix : env.cfg.Fixed) (t : Table) : Inv env (.table t) := table_inv env hfix t

/-- queryCluster delivering flat rows -/
theorem cluster_reports (env : Env) (c : Cluster) (hw : c.wf) (hf : c.unflat = false) : Inv env (.cluster c) :=
  fun s st now h => cluster_flat_inv c hw hf s st now h

/-- queryCluster delivering unflat rows drops the consumer's error (D5), but its only consumer,
    group's collector, loses no row by that: not told ⇒ the collected rows are complete -/
theorem cluster_unflat_collect_complete (c : Cluster) (hw : c.wf) (g : Guard) (now : Nat)
    (h : (clusterIterate c (collectSink g) [] now).told = false) :
    c.Out (clusterIterate c (collectSink g) [] now).st := cluster_collect c hw g now h

theorem plan_reports (env : Env) (hfix : env.cfg.Fixed) (p : Plan) (hwf : p.wf) : Inv env p := inv_of_wf env hfix p hwf

/-- not told ⇒ the rows are a prefix of a fault-free output, and all of
    it unless the caller's own callback asked to stop -/
theorem complete_unless_told (env : Env) (hfix : env.cfg.Fixed) (p : Plan) (hwf : p.wf) (f : UFault)
    (size : Row → Nat) (now : Nat) (ht : (embedded env p f size now).told = false) :
    ∃ l, Out p l ∧ (∃ m, (embedded env p f size now).rows = l.take m) ∧
      ((embedded env p f size now).stopped = false → (embedded env p f size now).rows = l) := by
  obtain ⟨l, hl, hp⟩ := inv_of_wf env hfix p hwf (userSink f size) {} now ht
  exact ⟨l, hl, user_of_polite f size _ l hp⟩

theorem complete_of_not_stopped (env : Env) (hfix : env.cfg.Fixed) (p : Plan) (hwf : p.wf) (f : UFault)
    (size : Row → Nat) (now : Nat) (ht : (embedded env p f size now).told = false)
    (hns : (embedded env p f size now).stopped = false) :
    ∃ l, Out p l ∧ (embedded env p f size now).rows = l :=
  let ⟨l, hl, _, hfull⟩ := complete_unless_told env hfix p hwf f size now ht
  ⟨l, hl, hfull hns⟩

/-- The same, negatively: if the rows delivered to the caller are not a fault-free output of the
    plan and the caller's own callback did not ask to stop, the caller is told. -/
theorem told_when_incomplete (env : Env) (hfix : env.cfg.Fixed) (p : Plan) (hwf : p.wf) (f : UFault)
    (size : Row → Nat) (now : Nat)
    (hdiff : ¬ ∃ l, Out p l ∧ (embedded env p f size now).rows = l)
    (hns : (embedded env p f size now).stopped = false) :
    (embedded env p f size now).told = true := by
  cases ht : (embedded env p f size now).told with
  | true => rfl
  | false => exact absurd (complete_of_not_stopped env hfix p hwf f size now ht hns) hdiff

/-! ## Panics in per-row processing

A failure raised as a panic (goexpr SUBSTR/SPLIT/LEN on a dimension value of an unexpected type
in WHERE / GROUP BY, a consumer callback) is the reply `fail .panic` (see `Err.panic`): it goes
up through every operator unchanged and meets table.go `safeOnValue` (`recoverStep`) before the
shared scan. -/

/-- the recover boundary as it stands (deferred closure assigns the named results) hands
    everything that comes up to the scan unchanged: it is the identity operator -/
theorem recover_boundary_reports : StepOK (recoverStep true) (fun _ => True) (fun _ r => [r]) unitNx :=
  recoverStep_ok

/-- For every well-formed plan: if the caller's callback panics at its
    call k and the caller is not told (nil error, statistics not partial), then that call never
    happened — the callback was called at most k times (calls 0 … k-1).  A panic that happened
    is always reported. -/
theorem panic_is_reported (env : Env) (hfix : env.cfg.Fixed) (p : Plan) (hwf : p.wf) (k : Nat)
    (size : Row → Nat) (now : Nat) (ht : (embedded env p (.panicAt k) size now).told = false) :
    (embedded env p (.panicAt k) size now).calls ≤ k := by
  obtain ⟨l, _, hp⟩ := inv_of_wf env hfix p hwf (userSink (.panicAt k) size) {} now ht
  exact panic_of_polite k size hp (Nat.zero_le k)

/-! ## The sources and callers one by one: table, cluster, LIMIT, rpc, web -/

/-- a table query reports through the error: its statistics say 0 of 1 exactly when there is one -/
theorem table_stats_follow_error (env : Env) (t : Table) (f : UFault) (size : Row → Nat) (now : Nat) :
    (embedded env (.table t) f size now).stats =
      some { total := 1, successful := if (embedded env (.table t) f size now).err.isNone then 1 else 0, missing := [] } :=
  rfl

/-- Where the scan looks at the deadline: only after a row it has delivered
    (`guard.ProceedAfter(onValue(..))` in rowStore.iterate / combinedOnValue).  A scan that finds
    only file rows mapping none of the requested columns (and nothing in the memstore) calls
    nobody, consults no guard and ends with nil error and statistics 1/1 even under an expired
    deadline — and that empty result is the complete answer (`t.rows = []`), so nothing is
    presented as complete that is not. -/
theorem only_skipped_rows_no_error (cfg : Cfg) (h15 : cfg.d15 = true) (dl : Option Nat) (t : Table)
    (hf : ∀ x, x ∈ t.file → x.2 = false) (hm : t.includeMem = false ∨ t.mem = []) (hco : t.co = none)
    (f : UFault) (size : Row → Nat) (now : Nat) :
    (embedded ⟨cfg, dl⟩ (.table t) f size now).rows = [] ∧
    (embedded ⟨cfg, dl⟩ (.table t) f size now).err = none ∧
    (embedded ⟨cfg, dl⟩ (.table t) f size now).stats = some ⟨1, 1, []⟩ ∧ t.rows = [] := by
  have hrows : t.rows = [] := by
    unfold Table.rows
    have h1 : t.file.filter (·.2) = [] := List.filter_eq_nil_iff.mpr (fun x hx => by simp [hf x hx])
    rcases hm with h | h <;> simp [h1, h]
  have hscan : ∀ {σ : Type} (s : Sink σ) (st : σ), coalescedScan ⟨cfg, dl⟩ t s st now = (st, 0, none) := by
    intro σ s st
    simp only [coalescedScan, hco]
    cases cfg.coalesce <;> simp [fileStore_all_skipped cfg h15 t _ _ now hf hm]
  simp [embedded, iterate, tableIterate, hscan, hrows]

/-- A cluster query that returns no error: every partition either delivered all its rows to the
    caller, or is listed in `MissingPartitions` with `NumSuccessfulPartitions < NumPartitions` —
    whatever the partitions' outcomes (no handler, error after k rows, hanging until the timer
    fires), the arrival order, and the caller's faults, as long as the caller did not ask to stop. -/
theorem cluster_partition_told (env : Env) (c : Cluster) (hw : c.wf) (hf : c.unflat = false) (f : UFault)
    (size : Row → Nat) (now : Nat)
    (he : (embedded env (.cluster c) f size now).err = none)
    (hns : (embedded env (.cluster c) f size now).stopped = false) :
    ∀ (p : Nat) (pt : Part), c.parts[p]? = some pt →
      (embedded env (.cluster c) f size now).rows.filter (fun r => r.part == p) = pt.rows ∨
      ∃ st, (embedded env (.cluster c) f size now).stats = some st ∧ p ∈ st.missing ∧ st.successful < st.total := by
  intro p pt hp
  exact (cluster_complete_or_missing env c hw hf f size now he hns p pt hp).imp (·.1) id

/-- A partition is counted successful only if its end-of-results was received: in a cluster
    query that returns no error and was not stopped by the caller, every partition whose handler
    does not end with a clean final result (`Part.finalErr ≠ some none`: no handler, an error,
    a stream that ended — EOF, reset — without the end-of-results message, a handler that
    hangs) is listed in `MissingPartitions` and makes `NumSuccessfulPartitions < NumPartitions`
    — even when all of its rows happened to arrive. -/
theorem cluster_success_needs_end_of_results (env : Env) (c : Cluster) (hw : c.wf) (hf : c.unflat = false) (f : UFault)
    (size : Row → Nat) (now : Nat)
    (he : (embedded env (.cluster c) f size now).err = none)
    (hns : (embedded env (.cluster c) f size now).stopped = false) :
    ∀ (p : Nat) (pt : Part), c.parts[p]? = some pt → pt.finalErr ≠ some none →
      ∃ st, (embedded env (.cluster c) f size now).stats = some st ∧ p ∈ st.missing ∧ st.successful < st.total := by
  intro p pt hp hfin
  exact (cluster_complete_or_missing env c hw hf f size now he hns p pt hp).resolve_left (fun h => hfin h.2)

/-- in particular a remote handler whose stream ends without the end-of-results message -/
theorem eof_without_end_of_results_is_missing (pt : Part) (k : Nat) (h : pt.outcome = .eofAfter k) :
    pt.finalErr ≠ some none := by
  simp [Part.finalErr, h]

/-- and a remote handler whose end-of-results message carries the follower's query error (what
    rpc_client.go ProcessRemoteQuery sends when the query fails after its field list): the
    end-of-results message was received, yet it is not "a clean final result" — the partition
    falls under `cluster_success_needs_end_of_results` like an error before the end -/
theorem error_on_end_of_results_is_missing (pt : Part) (k : Nat) (h : pt.outcome = .endErrorAfter k) :
    pt.finalErr ≠ some none ∧ pt.finalErr = (Part.mk pt.rows (.failAfter k)).finalErr ∧
      pt.script = (Part.mk pt.rows (.failAfter k)).script := by
  simp [Part.finalErr, Part.script, h]

/-- concretely: all rows of partition 1 arrived, its end-of-results message carries an error:
    listed as missing, 1 of 2 successful -/
theorem error_on_end_of_results_witness :
    let pr (p k : Nat) : Row := { key := k, ts := 0, vals := [1], part := p }
    let cl : Cluster := { parts := [⟨[pr 0 1], .ok⟩, ⟨[pr 1 3, pr 1 4], .endErrorAfter 2⟩],
                          events := [.msg 0 false, .msg 1 false, .msg 1 false, .msg 0 false, .msg 1 false], unflat := false }
    let o := embedded ⟨Cfg.fixed, none⟩ (.cluster cl) .none (fun _ => 0) 0
    o.rows = [pr 0 1, pr 1 3, pr 1 4] ∧ o.err = none ∧ o.stats = some ⟨2, 1, [1]⟩ ∧ o.told = true := by decide +kernel

/-- a stale handler (stream ended before its first message) is passed over: the partition is
    served by the next handler in its queue, or is a partition without handler -/
theorem stale_handler_is_retried (rest : List Attempt) :
    effectiveOutcome (.stale :: rest) = effectiveOutcome rest ∧ effectiveOutcome [] = .noHandler ∧
    effectiveOutcome [.stale, .stale] = .noHandler := ⟨rfl, rfl, rfl⟩

/-- whatever happens, a LIMIT query that is not told has delivered exactly the first n rows of a
    fault-free output of its source (or a prefix of them at the caller's own request) -/
theorem limit_is_not_a_fault (env : Env) (hfix : env.cfg.Fixed) (p : Plan) (hwf : p.wf) (n : Nat) (f : UFault)
    (size : Row → Nat) (now : Nat) (ht : (embedded env (.limit n p) f size now).told = false)
    (hns : (embedded env (.limit n p) f size now).stopped = false) :
    ∃ l, Out p l ∧ (embedded env (.limit n p) f size now).rows = l.take n := by
  obtain ⟨_, ⟨l, hl, rfl⟩, h⟩ := complete_of_not_stopped env hfix (.limit n p) hwf f size now ht hns
  exact ⟨l, hl, h⟩

/-- … and the stop itself produces no error: a source that would fail (or sleep past a
    deadline) only after the first n rows is never asked for those rows -/
theorem limit_stop_is_silent (cfg : Cfg) (rows : List Row) (n k : Nat) (hk : n < k) (hn : n < rows.length)
    (size : Row → Nat) (now : Nat) :
    (embedded ⟨cfg, none⟩ (.limit n (.mock rows (some k) none)) .none size now).err = none ∧
    (embedded ⟨cfg, none⟩ (.limit n (.mock rows (some k) none)) .none size now).rows = rows.take n := by
  -- the limit callback over the recording callback, fed by the mock loop
  have key : ∀ (rs : List Row) (i idx : Nat) (st : UState) (t : Nat), i + (n - idx) < k → idx ≤ n → n - idx < rs.length →
      (mockLoop (wrap (limitStep n) (userSink .none size)) (some k) none i (idx, st) t rs).2.2 = none ∧
      (mockLoop (wrap (limitStep n) (userSink .none size)) (some k) none i (idx, st) t rs).1.2.rows = st.rows ++ rs.take (n - idx) := by
    intro rs
    induction rs with
    | nil => intro i idx st t _ _ h; simp at h
    | cons r rs ih =>
      intro i idx st t hik hidx hlen
      have hne : ((some k : Option Nat) == some i) = false := by
        simp; omega
      unfold mockLoop
      by_cases hlt : idx < n
      · have := ih (i + 1) (idx + 1) { st with rows := st.rows ++ [r], n := st.n + 1 } (t + sleepFor none i + 0)
          (by omega) (by omega) (by simp at hlen; omega)
        have e : n - idx = (n - (idx + 1)) + 1 := by omega
        simpa [hne, wrap, limitStep, hlt, feed, userSink, Reply.ok, Reply.proceed, e] using this
      · have hidn : n - idx = 0 := by omega
        simp [hne, wrap, limitStep, hlt, Reply.ok, Reply.stop, hidn]
  have := key rows 0 0 {} now (by omega) (Nat.zero_le _) (by omega)
  simp only [embedded, iterate, Res.mapSt]
  exact ⟨this.1, by simpa using this.2⟩

/-- rpc Query: a stream that ends with end-of-results whose statistics are not partial carried
    exactly a fault-free output -/
theorem rpc_told (env : Env) (hfix : env.cfg.Fixed) (p : Plan) (hwf : p.wf) (now : Nat) (stats : Option Stats)
    (hend : (rpcQuery env p now).fin = .endOfResults stats)
    (hnp : ∀ st, stats = some st → st.partial_ = false) :
    ∃ l, Out p l ∧ (rpcQuery env p now).rows = l := by
  have hc := fun ht => complete_of_not_stopped env hfix p hwf .none (fun _ => 0) now ht rfl
  unfold rpcQuery at hend ⊢
  generalize embedded _ p _ _ _ = o at hc hend ⊢
  cases he : o.err with
  | some e =>
    simp only [he] at hend
    cases hend
  | none =>
    simp only [he, RpcEnd.endOfResults.injEq] at hend ⊢
    subst hend
    refine (Outcome.told_cases he).elim hc fun ⟨st, hst, hp⟩ => ?_
    rw [hnp st hst] at hp
    cases hp

/-- what execQuery caches, after the fix for D4 -/
theorem web_exec_cases (cfg : Cfg) (hd4 : cfg.d4 = true) (w : WebOpts) (p : Plan) (now : Nat) :
    let o := embedded ⟨cfg, some (now + w.queryTimeout)⟩ p (.sizeCap w.maxResponseBytes) w.rowSize (now + w.lag)
    (∀ e, o.err = some e → webExecQuery cfg w p now = { status := .error, rows := [], stats := none, err := some e }) ∧
    (o.err = none → w.maxResponseBytes < w.finalSize o.rows →
      webExecQuery cfg w p now = { status := .error, rows := [], stats := none, err := some .size }) ∧
    (o.err = none → ¬ w.maxResponseBytes < w.finalSize o.rows →
      webExecQuery cfg w p now = { status := .success, rows := o.rows, stats := o.stats, err := none }) := by
  refine ⟨fun e he => ?_, fun he hsz => ?_, fun he hsz => ?_⟩
  · simp [webExecQuery, webDoQuery, he, hd4]
  · simp [webExecQuery, webDoQuery, he, hsz]
  · simp [webExecQuery, webDoQuery, he, hsz]

/-- web: a cache entry with status success holds exactly a fault-free output of the query, or
    statistics that list missing partitions (cluster).  In particular a result cut short by the
    deadline, the memory cap or the response-size cap is never cached as a success. -/
theorem web_success_is_complete (cfg : Cfg) (hfix : cfg.Fixed) (w : WebOpts) (p : Plan) (hwf : p.wf) (now : Nat)
    (hs : (webExecQuery cfg w p now).status = .success) :
    (∃ l, Out p l ∧ (webExecQuery cfg w p now).rows = l) ∨
    (∃ st, (webExecQuery cfg w p now).stats = some st ∧ st.partial_ = true) := by
  have hc := fun ht => complete_of_not_stopped ⟨cfg, some (now + w.queryTimeout)⟩ hfix p hwf
    (.sizeCap w.maxResponseBytes) w.rowSize (now + w.lag) ht rfl
  obtain ⟨c1, c2, c3⟩ := web_exec_cases cfg hfix.2.2.1 w p now
  generalize embedded _ p _ _ _ = o at hc c1 c2 c3
  cases he : o.err with
  | some e =>
    rw [c1 e he] at hs
    cases hs
  | none =>
    by_cases hsz : w.maxResponseBytes < w.finalSize o.rows
    · rw [c2 he hsz] at hs
      cases hs
    · rw [c3 he hsz]
      exact (Outcome.told_cases he).imp hc id

/-- HTTP 200 is only ever answered from a success entry -/
theorem web_200_only_from_success (ce : CacheEntry) (h : (webRespond ce).1 = 200) : ce.status = .success := by
  unfold webRespond at h
  cases hs : ce.status <;> simp [hs] at h ⊢

/-- an error of the iteration becomes an error entry (HTTP 500 on this and every later request
    for the cached result) -/
theorem web_error_is_500 (cfg : Cfg) (hfix : cfg.Fixed) (w : WebOpts) (p : Plan) (now : Nat)
    (he : (embedded ⟨cfg, some (now + w.queryTimeout)⟩ p (.sizeCap w.maxResponseBytes) w.rowSize (now + w.lag)).err ≠ none) :
    (webRespond (webExecQuery cfg w p now)).1 = 500 := by
  obtain ⟨c1, _, _⟩ := web_exec_cases cfg hfix.2.2.1 w p now
  generalize embedded _ p _ _ _ = o at he c1
  cases h : o.err with
  | none => exact absurd h he
  | some e =>
    rw [c1 e h]
    rfl

/-! ## queryCluster never returns its `_finalErr` (D5), so only the statistics tell -/

theorem fail_never_records (c : CState) (p : Nat) (e : Option Err) (h : c.finalErr = none) : (c.fail p e).finalErr = none := by
  simp [CState.fail, h]

/-! ## Facts regenerated from the Go source -/

/-- every call on the query path whose error result is discarded (as extracted from the current
    Go source) is classified, and none is classified as swallowing a truncation: a new discarded
    error breaks this until it is classified -/
theorem facts_all_classified : Facts.errorDrops.all (fun d => acceptable (classify d)) = true := by decide +kernel

/-- the expectation table has no stale entry -/
theorem expectations_all_used :
    expectations.all (fun e => Facts.errorDrops.any (fun d =>
      e.file == d.file && e.func == d.func && e.callee == d.callee && e.how == d.how)) = true := by decide +kernel

/-- the two sites fixed for C13 are gone: no `Walk` result dropped in fileStore.iterate, no
    `Iterate` error blanked in web doQuery -/
theorem fixed_sites_absent :
    Facts.errorDrops.all (fun d => !(d.file == "row_store.go" && d.callee == "ms.tree.Walk") &&
      !(d.file == "web/query.go" && d.callee == "rs.Iterate")) = true := by decide +kernel

/-- every way out of the receive loop of rpc/server HandleRemoteQueries (regenerated from the Go
    source) either sets the handler's error or follows a received end-of-results message: the
    loop cannot end silently (e.g. on io.EOF), which queryCluster would count as a successful
    partition; and the end-of-results exit is there -/
theorem remote_loop_exits_report :
    Facts.remoteLoopExits.all (fun e => e.setsErr || e.afterEnd) = true ∧
    Facts.remoteLoopExits.any (fun e => e.afterEnd) = true := by decide +kernel

/-- regenerated facts: every recover boundary of the query path's packages hands the recovered
    panic on — by assigning a named error result of its function ("named"), by sending it on the
    result channel ("send"), or it stands in a function without an error result ("void": logs
    only; ingestion and follow paths).  A boundary whose deferred closure assigns only local
    variables of a function with an (unnamed) error result is "lost" and breaks this.  The five
    boundaries of the query path are there, each with its way of reporting. -/
theorem recover_boundaries_report :
    Facts.recoverBoundaries.all (fun b => b.reach != "lost") = true ∧
    Facts.recoverBoundaries.any (fun b => b.file == "table.go" && b.func == "safeOnValue" && b.reach == "named" && b.assigns.contains "err") = true ∧
    Facts.recoverBoundaries.any (fun b => b.file == "planner/subquery.go" && b.reach == "send") = true ∧
    Facts.recoverBoundaries.any (fun b => b.file == "web/query.go" && b.func == "doQuery" && b.reach == "named") = true ∧
    Facts.recoverBoundaries.any (fun b => b.file == "rpc/server/rpc_server.go" && b.func == "Query" && b.reach == "named") = true ∧
    Facts.recoverBoundaries.any (fun b => b.file == "cluster_query.go" && b.func == "queryForRemote" && b.reach == "named") = true := by decide +kernel

/-! ## Witnesses: each defect on a concrete run, before and after its fix -/

def r (k : Nat) : Row := { key := k, ts := 0, vals := [1] }
def noSize : Row → Nat := fun _ => 0
def cfgWith (d3 d15 d4 subq subqStats : Bool) : Cfg :=
  { d3 := d3, d15 := d15, d4 := d4, subq := subq, subqStats := subqStats, coalesce := .abortAll }  -- the code the defects were found in

/-- `panic_is_reported` for a panic raised by the query's own row processing (`incl` = the WHERE clause or
    a GROUP BY expression evaluated on the row): an untold result is a complete one, so no row
    whose evaluation panics was reached — `told_when_incomplete` for `UFault.none` covers it;
    here the concrete shape: a panic on the third of four rows -/
theorem panic_in_where_reported :
    let t : Table := { file := [(r 0, true), (r 1, true), (r 2, true), (r 3, true)], mem := [], includeMem := true, oomAt := none, co := none }
    let o := embedded ⟨Cfg.fixed, none⟩ (.filter (fun x => if x.key == 2 then .err .panic else .keep x) (.table t)) .none noSize 0
    o.rows = [r 0, r 1] ∧ o.err = some .panic ∧ o.stats = some ⟨1, 0, []⟩ := by decide +kernel

/-- the boundary whose deferred closure assigns local variables (unnamed results): the function
    returns `(false, nil)`, the scan drops the query as if it had asked to stop — 2 of 4 rows,
    nil error, statistics 1 of 1: a truncated result presented as complete -/
theorem recover_lost_witness :
    let t : Table := { file := [(r 0, true), (r 1, true), (r 2, true), (r 3, true)], mem := [], includeMem := true, oomAt := none, co := none }
    let o := embedded ⟨{ Cfg.fixed with recover := false }, none⟩ (.table t) (.panicAt 2) noSize 0
    o.rows = [r 0, r 1] ∧ o.err = none ∧ o.stats = some ⟨1, 1, []⟩ ∧ o.stopped = false ∧ o.told = false ∧
      o.calls = 3 := by decide +kernel

/-- the same data and fault with the boundary as it stands: told -/
theorem recover_fixed_witness :
    let t : Table := { file := [(r 0, true), (r 1, true), (r 2, true), (r 3, true)], mem := [], includeMem := true, oomAt := none, co := none }
    let o := embedded ⟨Cfg.fixed, none⟩ (.table t) (.panicAt 2) noSize 0
    o.rows = [r 0, r 1] ∧ o.err = some .panic ∧ o.stats = some ⟨1, 0, []⟩ ∧ o.calls = 3 := by decide +kernel

/-- D3: a consumer error in the memstore part vanishes: 3 of 4 rows, nil error, statistics 1/1 -/
theorem d3_witness :
    let t : Table := { file := [(r 0, true), (r 1, true)], mem := [r 2, r 3], includeMem := true, oomAt := none, co := none }
    let o := embedded ⟨cfgWith false true true true true, none⟩ (.table t) (.failAt 3) noSize 0
    o.rows = [r 0, r 1, r 2] ∧ o.told = false ∧ o.stopped = false ∧ t.rows = [r 0, r 1, r 2, r 3] := by decide +kernel

/-- D3 with a deadline: the caller sleeps past it in the memstore part -/
theorem d3_deadline_witness :
    let t : Table := { file := [(r 0, true)], mem := [r 1, r 2], includeMem := true, oomAt := none, co := none }
    let o := embedded ⟨cfgWith false true true true true, some 10⟩ (.table t) (.sleepAt 1 20) noSize 0
    o.rows = [r 0, r 1] ∧ o.told = false ∧ t.rows = [r 0, r 1, r 2] := by decide +kernel

/-- D15: a file row that maps none of the requested columns ends the scan silently -/
theorem d15_witness :
    let t : Table := { file := [(r 0, true), (r 1, false), (r 2, true)], mem := [r 3], includeMem := true, oomAt := none, co := none }
    let o := embedded ⟨cfgWith true false true true true, none⟩ (.table t) .none noSize 0
    o.rows = [r 0] ∧ o.told = false ∧ t.rows = [r 0, r 2, r 3] := by decide +kernel

/-- D4: the size cap stops the scan, the rows so far are cached as success and served with 200 -/
theorem d4_witness :
    let t : Table := { file := [(r 0, true), (r 1, true), (r 2, true)], mem := [], includeMem := false, oomAt := none, co := none }
    let w : WebOpts := { maxResponseBytes := 20, queryTimeout := 1000, rowSize := fun _ => 8, finalSize := fun _ => 10 }
    let ce := webExecQuery (cfgWith true true false true true) w (.table t) 0
    ce.status = .success ∧ ce.rows = [r 0, r 1] ∧ (webRespond ce).1 = 200 := by decide +kernel

/-- D4 with an expired deadline -/
theorem d4_deadline_witness :
    let t : Table := { file := [(r 0, true), (r 1, true), (r 2, true)], mem := [], includeMem := false, oomAt := none, co := none }
    let w : WebOpts := { maxResponseBytes := 1000, queryTimeout := 0, lag := 1, rowSize := fun _ => 8, finalSize := fun _ => 10 }
    let ce := webExecQuery (cfgWith true true false true true) w (.table t) 5
    ce.status = .success ∧ ce.rows = [r 0] := by decide +kernel

/-- subquery deadline ignored: `NOT (k IN (SELECT …)) LIMIT 1` under an expired deadline
    delivers a row the complete subquery result excludes; no error -/
theorem subq_witness :
    let sub : Plan := .flatten (fun x => [x]) (.mock [r 7, r 0] none none)
    let main : Plan := .limit 1 (.flatten (fun x => [x, { x with ts := 1 }])
      (.subqFilter sub (·.key) (fun dims x => !dims.contains x.key) (.mock [r 0, r 1] none none)))
    let o := embedded ⟨cfgWith true true true false true, some 3⟩ main .none noSize 5
    o.rows = [r 0] ∧ o.told = false ∧
    (embedded ⟨cfgWith true true true false true, none⟩ main .none noSize 5).rows = [r 1] := by decide +kernel

/-- subquery statistics dropped: a partition that fails during the subquery makes the filter
    incomplete; the main query runs everywhere and reports 2/2 -/
theorem subq_stats_witness :
    let pr (p k : Nat) : Row := { key := k, ts := 0, vals := [1], part := p }
    let sub : Plan := .cluster { parts := [⟨[pr 0 1], .ok⟩, ⟨[pr 1 2], .noHandler⟩],
                                 events := [.msg 0 false, .msg 0 false, .msg 1 false], unflat := false }
    let cl : Plan := .cluster { parts := [⟨[pr 0 1], .ok⟩, ⟨[pr 1 2], .ok⟩],
                                events := [.msg 0 false, .msg 0 false, .msg 1 false, .msg 1 false], unflat := false }
    let main : Plan := .subqFilter sub (·.key) (fun dims x => dims.contains x.key) cl
    let o := embedded ⟨cfgWith true true true true false, none⟩ main .none noSize 0
    o.rows = [pr 0 1] ∧ o.told = false ∧
    (embedded ⟨cfgWith true true true true true, none⟩ main .none noSize 0).err = some .incomplete := by decide +kernel

/-! ## Non-vacuity -/

/-- a complete run: nothing is told and everything is delivered -/
example :
    let t : Table := { file := [(r 0, true), (r 1, true)], mem := [r 2], includeMem := true, oomAt := none, co := none }
    let o := embedded ⟨Cfg.fixed, some 100⟩ (.sort List.reverse (.flatten (fun x => [x]) (.table t))) .none noSize 0
    o.rows = [r 2, r 1, r 0] ∧ o.told = false := by decide +kernel

/-- the same consumer fault as in `d3_witness`, after the fix: told -/
example :
    let t : Table := { file := [(r 0, true), (r 1, true)], mem := [r 2, r 3], includeMem := true, oomAt := none, co := none }
    let o := embedded ⟨Cfg.fixed, none⟩ (.table t) (.failAt 3) noSize 0
    o.rows = [r 0, r 1, r 2] ∧ o.err = some .consumer ∧ o.stats = some ⟨1, 0, []⟩ := by decide +kernel

/-- coalescing: a failing neighbour does not touch us (before the fix for D8 it did) -/
example :
    let bad : CoIter := { sink := ⟨fun n _ _ => (n + 1, 0, if n == 1 then Reply.fail .consumer else Reply.proceed)⟩, deadline := none, first := true }
    let t : Table := { file := [(r 0, true), (r 1, true)], mem := [r 2], includeMem := true, oomAt := none, co := some bad }
    (embedded ⟨Cfg.fixed, none⟩ (.table t) .none noSize 0).rows = [r 0, r 1, r 2] ∧
    (embedded ⟨Cfg.fixed, none⟩ (.table t) .none noSize 0).told = false ∧
    -- under `Coalesce.abortAll` the neighbour's error ended our scan too, and we were told
    (embedded ⟨Cfg.preD8, none⟩ (.table t) .none noSize 0).rows = [r 0] ∧
    (embedded ⟨Cfg.preD8, none⟩ (.table t) .none noSize 0).err = some .consumer := by decide +kernel

/-- a cluster query with a partition without handler: told by the statistics, partition listed -/
example :
    let pr (p k : Nat) : Row := { key := k, ts := 0, vals := [1], part := p }
    let cl : Cluster := { parts := [⟨[pr 0 1, pr 0 2], .ok⟩, ⟨[pr 1 3], .noHandler⟩, ⟨[pr 2 4], .failAfter 0⟩],
                          events := [.msg 1 false, .msg 0 false, .msg 2 false, .msg 0 false, .msg 0 false], unflat := false }
    let o := embedded ⟨Cfg.fixed, none⟩ (.cluster cl) .none noSize 0
    o.rows = [pr 0 1, pr 0 2] ∧ o.err = none ∧ o.stats = some ⟨3, 1, [1, 2]⟩ ∧ o.told = true := by decide +kernel

/-- two stale handlers in front of a live one; another partition's stream ends after one row
    without the end-of-results message: complete for the first, listed as missing for the second -/
example :
    let pr (p k : Nat) : Row := { key := k, ts := 0, vals := [1], part := p }
    let cl : Cluster := { parts := [⟨[pr 0 1, pr 0 2], effectiveOutcome [.stale, .stale, .answer .ok]⟩,
                                    ⟨[pr 1 3, pr 1 4], effectiveOutcome [.stale, .answer (.eofAfter 1)]⟩],
                          events := [.msg 0 false, .msg 1 false, .msg 0 false, .msg 1 false, .msg 0 false], unflat := false }
    let o := embedded ⟨Cfg.fixed, none⟩ (.cluster cl) .none noSize 0
    o.rows = [pr 0 1, pr 1 3, pr 0 2] ∧ o.err = none ∧ o.stats = some ⟨2, 1, [1]⟩ := by decide +kernel

/-- the leader's timer fires while a partition hangs -/
example :
    let pr (p k : Nat) : Row := { key := k, ts := 0, vals := [1], part := p }
    let cl : Cluster := { parts := [⟨[pr 0 1], .ok⟩, ⟨[pr 1 3, pr 1 4], .silentAfter 1⟩],
                          events := [.msg 0 false, .msg 1 false, .msg 0 false, .msg 1 false, .tick 50, .timeout], unflat := false }
    let o := embedded ⟨Cfg.fixed, none⟩ (.cluster cl) .none noSize 0
    o.rows = [pr 0 1, pr 1 3] ∧ o.err = none ∧ o.stats = some ⟨2, 1, [1]⟩ := by decide +kernel

/-- an already expired deadline: rows without any requested column are skipped in silence
    (complete, empty, no error), rows with an empty requested column are delivered, so the guard
    behind the first of them reports the deadline -/
example :
    let t0 : Table := { file := [(⟨1, 0, [], 0⟩, false), (⟨2, 0, [], 0⟩, false)], mem := [], includeMem := true, oomAt := none, co := none }
    let t1 : Table := { file := [(⟨1, 0, [], 0⟩, true), (⟨2, 0, [], 0⟩, true)], mem := [], includeMem := true, oomAt := none, co := none }
    let q (t : Table) := embedded ⟨Cfg.fixed, some 0⟩ (.flatten (fun x => x.vals.map (fun v => { x with vals := [v] })) (.group ⟨id, false⟩ (.table t))) .none noSize 1
    (q t0).rows = [] ∧ (q t0).err = none ∧ (q t0).stats = some ⟨1, 1, []⟩ ∧
    (q t1).rows = [] ∧ (q t1).err = some .deadline ∧ (q t1).stats = some ⟨1, 0, []⟩ := by decide +kernel

/-- LIMIT: the source is stopped after n rows, no error, not told -/
example :
    let o := embedded ⟨Cfg.fixed, some 50⟩ (.limit 2 (.mock [r 0, r 1, r 2, r 3] (some 3) none)) .none noSize 0
    o.rows = [r 0, r 1] ∧ o.told = false := by decide +kernel

/-- web after the fix: the size cap yields an error entry and HTTP 500 -/
example :
    let t : Table := { file := [(r 0, true), (r 1, true), (r 2, true)], mem := [], includeMem := false, oomAt := none, co := none }
    let w : WebOpts := { maxResponseBytes := 20, queryTimeout := 1000, rowSize := fun _ => 8, finalSize := fun _ => 10 }
    let ce := webExecQuery Cfg.fixed w (.table t) 0
    ce.status = .error ∧ ce.err = some .size ∧ webRespond ce = (500, []) := by decide +kernel

/-- the memory check happens at the 1000th, 2000th, … row -/
example : oomHit (some 1) 999 = false ∧ oomHit (some 1) 1000 = true ∧ oomHit (some 2) 1000 = false ∧
    oomHit (some 2) 2000 = true ∧ oomHit none 1000 = false := by decide +kernel

end Zeno.C13
