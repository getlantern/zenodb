/-
C11 — the distributed query plan is equivalent to the local plan.

The theorems, the regression witnesses with their data, non-vacuity examples.  Helper lemmas:
Lemmas/Plan*.lean; model: Model/Plan.lean.

Quantifiers: every query tree (SELECT with a FROM-subquery chain of any depth, any field
expressions that are valid and PERCENTILE-free, any WHERE / IF / GROUP BY / CROSSTAB functions
on keys, any HAVING, period, stride), every hash function, every partition-key list, every
number of partitions, every list of rows, every split that routes rows by `partitionFor`.
Hypotheses are explicit: `TreeWF` (distinct GROUP BY names, the one-to-one declarations of
goexpr hold — they do not for LEN, see `len_not_one_to_one` — and no `*` next to explicit
dimensions), `NPWF` (valid PERCENTILE-free fields, GROUP BY expressions read the key through
their params, no dimension called `_crosstab`), and for list equality of ORDER BY results
that ORDER BY decides (`StrictTotalOn`); without it the results are equal as multisets.
-/
import ZenoModel.Lemmas.PlanRegroup
import ZenoModel.Lemmas.PlanText
import ZenoModel.Model.SubMerge

namespace Zeno.C11
open Zeno Zeno.Plan Zeno.PlanLemmas

variable (x : Ext)

/-- A query is pushed down whole only when every output group is confined to a single
    partition: if `pushdownAllowed` says yes, two table rows whose keys end up in the same
    outermost group are routed to the same partition — for every hash, every partition-key
    list, every number of partitions and every FROM-subquery chain. -/
theorem pushdown_sound (h : DKey → Nat) (pk : List String) (t : QTree) (hwf : TreeWF t)
    (hp : pushdownAllowed pk t = true) (n : Nat) (k₁ k₂ : DKey)
    (hk : chainKey t k₁ = chainKey t k₂) :
    partitionFor h pk k₁ n = partitionFor h pk k₂ n := by
  obtain ⟨hc, hw⟩ := pushdownAllowed_plain hp
  have := pushdownWalk_sound pk t true [] id hwf hc (fun a b hab => by simpa using hab) hw k₁ k₂ hk
  simp [partitionFor, this]

/-- … in terms of rows and output groups of a single SELECT. -/
theorem pushdown_sound_rows (h : DKey → Nat) (pk : List String) (q : Query) (s : Src)
    (hwf : QWF q) (hp : pushdownAllowed pk (.table q) = true) (n : Nat) (r₁ r₂ : PRow)
    (hg : gid q s r₁ = gid q s r₂) :
    partitionFor h pk r₁.key n = partitionFor h pk r₂.key n :=
  pushdown_sound h pk (.table q) hwf hp n r₁.key r₂.key (congrArg Prod.fst hg)

/-- The union of the partitions' results is the local result over the union of the
    partitions (before the leader's ORDER BY / LIMIT): exact list equality, groups listed in
    partition order.  `Routed`: rows in different parts have different partition numbers
    (`splitBy_routed`: the split by `partitionFor` is such a split, and by `splitBy_perm` its
    parts together are the table). -/
theorem pushdown_equiv_rows (h : DKey → Nat) (pk : List String) (n : Nat) (t : QTree) (s : Src)
    (hwf : TreeWF t) (hp : pushdownAllowed pk t = true) (parts : List (List PRow))
    (hr : Routed (fun r => partitionFor h pk r.key n) parts) :
    (parts.map (runTreePre x t s)).flatten = runTreePre x t s parts.flatten := by
  have hsep : parts.Pairwise (KeySep (fun k => id (chainKey t k))) :=
    hr.imp fun hAB a ha b hb e => hAB a ha b hb (pushdown_sound h pk t hwf hp n a.key b.key e)
  exact (runTreePre_flatten x s parts t id (pushdownAllowed_plain hp).1 hsep).1.symm

/-- Whole-query pushdown, queries without LIMIT: executing the cluster plan (every
    partition runs the query including its ORDER BY, the leader orders the union) yields
    exactly the rows of the local plan over the union of the partitions — as a list when
    ORDER BY decides (or is absent). -/
theorem pushdown_equiv (h : DKey → Nat) (pk : List String) (n : Nat) (t : QTree) (s : Src)
    (hwf : TreeWF t) (hp : pushdownAllowed pk t = true) (parts : List (List PRow))
    (hr : Routed (fun r => partitionFor h pk r.key n) parts)
    (hl : t.top.olo.limit = 0) (ho : t.top.olo.offset = 0)
    (hord : t.top.olo.orderBy ≠ [] →
      StrictTotalOn (less t.top.olo.orderBy) (runTreePre x t s parts.flatten)) :
    clusterRun x pk parts t s = runTree x t s parts.flatten := by
  have hrows := pushdown_equiv_rows x h pk n t s hwf hp parts hr
  rw [← hrows] at hord
  rw [clusterRun_pushdown x pk parts t s hp, runTree_olo, ← hrows]
  exact olo_parts_eq _ _ hl hord

/-- With LIMIT (and in general): the cluster plan returns as many rows as the local plan.
    (Which rows a LIMIT keeps among tied or unordered rows is not determined by the query;
    the full statement for LIMIT under a deciding ORDER BY is `pushdown_equiv_limit`.) -/
theorem pushdown_equiv_count (h : DKey → Nat) (pk : List String) (n : Nat) (t : QTree) (s : Src)
    (hwf : TreeWF t) (hp : pushdownAllowed pk t = true) (parts : List (List PRow))
    (hr : Routed (fun r => partitionFor h pk r.key n) parts)
    (hl : t.top.olo.limit = 0) :
    (clusterRun x pk parts t s).length = (runTree x t s parts.flatten).length := by
  rw [clusterRun_pushdown x pk parts t s hp, runTree_olo,
    ← pushdown_equiv_rows x h pk n t s hwf hp parts hr]
  exact olo_parts_length _ _ hl

/-- Whole-query pushdown with ORDER BY … LIMIT [OFFSET]: every partition returns its first
    offset+limit rows in ORDER BY order (after fix-05; before it each partition also skipped
    `offset` rows), the leader orders the union, skips `offset` rows and keeps `limit`.  When
    ORDER BY decides (strict total order on the — pairwise distinct — result rows) this is
    exactly the local plan's result. -/
theorem pushdown_equiv_limit (h : DKey → Nat) (pk : List String) (n : Nat) (t : QTree) (s : Src)
    (hwf : TreeWF t) (hp : pushdownAllowed pk t = true) (parts : List (List PRow))
    (hr : Routed (fun r => partitionFor h pk r.key n) parts)
    (hob : t.top.olo.orderBy ≠ []) (hl : t.top.olo.limit > 0)
    (hord : StrictTotalOn (less t.top.olo.orderBy) (runTreePre x t s parts.flatten))
    (hnd : (runTreePre x t s parts.flatten).Nodup) :
    clusterRun x pk parts t s = runTree x t s parts.flatten := by
  have hrows := pushdown_equiv_rows x h pk n t s hwf hp parts hr
  rw [← hrows] at hord hnd
  rw [clusterRun_pushdown x pk parts t s hp, runTree_olo, ← hrows]
  exact olo_parts_eq_limit _ _ hob hl hord hnd

/-- Per output group and column, the state the leader merges from the partitions' states equals
    the state accumulated directly over the group's rows — for every split of the rows whatsoever
    (the non-pushdown plan does not depend on the routing).  Uses the merge homomorphism (C05)
    and "regrouping fine → coarse composes". -/
theorem nonpushdown_state (q : Query) (hq : NPWF q) (s : Src) (G : DKey × Int)
    (sel : Option String) (hsel : sel = none ∨ q.ctab.isSome = true) (e : Ex)
    (hv : e.valid = true) (hp : e.noPtile = true) (parts : List (List PRow)) :
    leaderState e sel ((parts.flatMap (runStates x (rewriteAst q) s)).filter (fun m => cid q m == G)) =
      e.acc x ((((parts.flatten.filter (admits q s)).filter (fun r => gid q s r == G)).filter
        (selR q sel)).map (toPt q)) := by
  -- the partition-side groups that the leader puts into `G` and column `sel`
  have := foldl_mrg_runStates x (rewriteAst q) s
    (fun F => selF sel F && (leaderKey q F.1, F.2) == G) hv hp parts
  simp only [cid_fine hq, selF_fine hq.noCtabParam s sel hsel, admits_rewrite, toPt_rewrite] at this
  rw [leaderState, List.filter_filter, List.filter_filter]
  exact this

/-- The rows the leader computes from the partitions' states are the rows of the local plan
    over the union of the partitions, up to the order in which groups are listed. -/
theorem nonpushdown_equiv_rows (q : Query) (hq : NPWF q) (s : Src) (cv : List String)
    (parts : List (List PRow)) :
    (leaderPre x q cv (parts.flatMap (runStates x (rewriteAst q) s))).Perm
      (runPre x q s cv parts.flatten) := by
  refine mkRows_perm x q cv (fun G => ?_) fun G f hf =>
    nonpushdown_state x q hq s G f.sel (xfields_spec q cv f hf).2 f.ex (hq.xfield_ok hf).1
      (hq.xfield_ok hf).2 parts
  have := mem_map_runStates x (rewriteAst q) s (fun F => (leaderKey q F.1, F.2)) parts G
  simp only [cid_fine hq] at this
  exact this

/-- the leader derives the same crosstab columns as the local plan -/
theorem nonpushdown_crosstab_columns (q : Query) (hq : NPWF q) (s : Src) (parts : List (List PRow)) :
    (leaderCtabValues q (parts.flatMap (runStates x (rewriteAst q) s))).mergeSort
        (fun a b => decide (a ≤ b)) = cvOf q s parts.flatten := by
  refine strSort_perm ?_
  unfold leaderCtabValues ctabValues
  cases hc : q.ctab with
  | none => exact List.Perm.refl _
  | some ct =>
    refine dedup_perm fun v => ?_
    have := mem_map_runStates x (rewriteAst q) s (fun F => ctabOf F.1) parts v
    simp only [gid, ctabOf_fine hq.noCtabParam hc] at this
    exact this

/-- Non-pushdown plan = local plan, as lists, when ORDER BY decides. -/
theorem nonpushdown_equiv (q : Query) (hq : NPWF q) (s : Src) (parts : List (List PRow))
    (hob : q.olo.orderBy ≠ [])
    (hord : StrictTotalOn (less q.olo.orderBy) (runPre x q s (cvOf q s parts.flatten) parts.flatten)) :
    leaderSide x q (parts.flatMap (runStates x (rewriteAst q) s)) = run x q s parts.flatten := by
  unfold leaderSide run
  rw [nonpushdown_crosstab_columns x q hq s parts]
  have hp := nonpushdown_equiv_rows x q hq s (cvOf q s parts.flatten) parts
  exact olo_eq_of_perm _ hp hob (hord.perm hp.symm)

/-- Non-pushdown plan = local plan as multisets, without ORDER BY and LIMIT. -/
theorem nonpushdown_equiv_unordered (q : Query) (hq : NPWF q) (s : Src) (parts : List (List PRow))
    (ho : emptyOlo q.olo) :
    (leaderSide x q (parts.flatMap (runStates x (rewriteAst q) s))).Perm (run x q s parts.flatten) := by
  unfold leaderSide run
  rw [nonpushdown_crosstab_columns x q hq s parts, olo_empty ho, olo_empty ho]
  exact nonpushdown_equiv_rows x q hq s _ parts

/-- Non-pushdown plan and local plan return the same number of rows in every case (LIMIT
    without a deciding ORDER BY). -/
theorem nonpushdown_equiv_count (q : Query) (hq : NPWF q) (s : Src) (parts : List (List PRow)) :
    (leaderSide x q (parts.flatMap (runStates x (rewriteAst q) s))).length =
      (run x q s parts.flatten).length := by
  unfold leaderSide run
  rw [nonpushdown_crosstab_columns x q hq s parts]
  exact olo_length_of_perm _ (nonpushdown_equiv_rows x q hq s _ parts)

/-- `clusterRun` on a table query that may not be pushed down is the non-pushdown plan. -/
theorem clusterRun_nonpushdown (pk : List String) (parts : List (List PRow)) (q : Query) (s : Src)
    (hp : pushdownAllowed pk (.table q) = false) :
    clusterRun x pk parts (.table q) s =
      leaderSide x q (parts.flatMap (runStates x (rewriteAst q) s)) := by
  simp [clusterRun, hp]

/-- `planner.Plan` with `QueryCluster` set — whole-query pushdown where allowed, else
    partition-side pre-aggregation for a table query, else the enclosing SELECT on the leader
    over the cluster plan of its FROM-subquery (recursively) — returns the rows of the local
    plan over the union of the partitions, as a multiset, for every query tree without
    ORDER BY / LIMIT and every split routed by `partitionFor`. -/
theorem cluster_equiv_unordered (h : DKey → Nat) (pk : List String) (n : Nat) (s : Src)
    (parts : List (List PRow)) (hr : Routed (fun r => partitionFor h pk r.key n) parts) :
    ∀ (t : QTree), TreeWF t → TreeNP t →
      (clusterRun x pk parts t s).Perm (runTree x t s parts.flatten) := by
  -- where the statement is pushed down whole
  have push : ∀ t, TreeWF t → TreeNP t → pushdownAllowed pk t = true →
      (clusterRun x pk parts t s).Perm (runTree x t s parts.flatten) := fun t hwf hnp hp =>
    .of_eq (pushdown_equiv x h pk n t s hwf hp parts hr hnp.top.2.2.1 hnp.top.2.2.2
      fun hne => absurd hnp.top.2.1 hne)
  intro t
  induction t with
  | table q =>
    intro hwf hnp
    by_cases hp : pushdownAllowed pk (.table q) = true
    · exact push _ hwf hnp hp
    · rw [clusterRun_nonpushdown x pk parts q s (by simpa using hp)]
      exact nonpushdown_equiv_unordered x q hnp.1 s parts hnp.2
  | sub q inner ih =>
    intro hwf hnp
    by_cases hp : pushdownAllowed pk (.sub q inner) = true
    · exact push _ hwf hnp hp
    · simp only [clusterRun, hp, Bool.false_eq_true, if_false, runTree]
      exact run_perm x hnp.1 hnp.2.1 _ ((ih hwf.2 hnp.2.2).map _)

/-! ## IN-subqueries

`planSubQueries` plans every IN-subquery of a WHERE with `Plan` and `Opts.IsSubQuery`: with
`QueryCluster` set it is a statement planned for the cluster like any other, and the distinct
values of its dimension become the IN list — the WHERE function — of the enclosing statement.
The theorems above apply to the sub-query's own tree; these state the consequence for the IN
list. -/

/-- `IsSubQuery` replaces the fields and nothing else: the pushdown decision of an
    IN-subquery is `pushdownAllowed` of the sub-query's own tree (GROUP BY, HAVING, ORDER BY /
    LIMIT of its FROM-subqueries, partition keys). -/
theorem in_subquery_decision (pk : List String) (t : QTree) :
    pushdownAllowed pk (asSub t) = pushdownAllowed pk t := by
  unfold pushdownAllowed
  rw [subsClean_asSub, pushdownWalk_asSub, asSub_top]
  rfl

/-- An IN-subquery that is pushed down whole because `pushdownAllowed` says so (no LIMIT;
    ORDER BY deciding or absent) gives the leader exactly the IN list of the local plan — with
    HAVING, since every group of the sub-query then lives on one partition. -/
theorem in_subquery_pushdown_equiv (h : DKey → Nat) (pk : List String) (n : Nat) (t : QTree)
    (s : Src) (dim : String) (hwf : TreeWF (asSub t)) (hp : pushdownAllowed pk t = true)
    (parts : List (List PRow)) (hr : Routed (fun r => partitionFor h pk r.key n) parts)
    (hl : (asSub t).top.olo.limit = 0) (ho : (asSub t).top.olo.offset = 0)
    (hord : (asSub t).top.olo.orderBy ≠ [] →
      StrictTotalOn (less (asSub t).top.olo.orderBy) (runTreePre x (asSub t) s parts.flatten)) :
    inListCluster x pk parts t s dim = inListLocal x t s dim parts.flatten := by
  unfold inListCluster inListLocal
  rw [pushdown_equiv x h pk n (asSub t) s hwf (by rw [in_subquery_decision]; exact hp) parts hr hl ho hord]

/-- … and with ORDER BY … LIMIT k in the sub-query (ORDER BY deciding). -/
theorem in_subquery_pushdown_limit_equiv (h : DKey → Nat) (pk : List String) (n : Nat) (t : QTree)
    (s : Src) (dim : String) (hwf : TreeWF (asSub t)) (hp : pushdownAllowed pk t = true)
    (parts : List (List PRow)) (hr : Routed (fun r => partitionFor h pk r.key n) parts)
    (hob : (asSub t).top.olo.orderBy ≠ []) (hl : (asSub t).top.olo.limit > 0)
    (hord : StrictTotalOn (less (asSub t).top.olo.orderBy) (runTreePre x (asSub t) s parts.flatten))
    (hnd : (runTreePre x (asSub t) s parts.flatten).Nodup) :
    inListCluster x pk parts t s dim = inListLocal x t s dim parts.flatten := by
  unfold inListCluster inListLocal
  rw [pushdown_equiv_limit x h pk n (asSub t) s hwf (by rw [in_subquery_decision]; exact hp)
    parts hr hob hl hord hnd]

/-- Whatever the planner decides for the sub-query (pushdown where allowed, else partition-side
    pre-aggregation with the HAVING condition as a field and HAVING evaluated on the leader,
    else the enclosing SELECT over the cluster plan of its FROM-subquery), the leader's IN
    list has the members of the local plan's, so the enclosing statement filters with the same
    WHERE function on every partition (sub-queries without ORDER BY / LIMIT). -/
theorem in_subquery_equiv (h : DKey → Nat) (pk : List String) (n : Nat) (t : QTree) (s : Src)
    (dim : String) (hwf : TreeWF (asSub t)) (hnp : TreeNP (asSub t))
    (parts : List (List PRow)) (hr : Routed (fun r => partitionFor h pk r.key n) parts) :
    whereIn dim (inListCluster x pk parts t s dim) = whereIn dim (inListLocal x t s dim parts.flatten) := by
  exact whereIn_inList_perm dim (cluster_equiv_unordered x h pk n s parts hr (asSub t) hwf hnp)

/-- … and for a table sub-query with a deciding ORDER BY and LIMIT that is not pushed down. -/
theorem in_subquery_nonpushdown_equiv (pk : List String) (q : Query) (s : Src) (dim : String)
    (hq : NPWF (asSubQ q)) (parts : List (List PRow))
    (hp : pushdownAllowed pk (.table q) = false)
    (hob : (asSubQ q).olo.orderBy ≠ [])
    (hord : StrictTotalOn (less (asSubQ q).olo.orderBy)
      (runPre x (asSubQ q) s (cvOf (asSubQ q) s parts.flatten) parts.flatten)) :
    inListCluster x pk parts (.table q) s dim = inListLocal x (.table q) s dim parts.flatten := by
  unfold inListCluster inListLocal
  have hp' : pushdownAllowed pk (asSub (.table q)) = false := by rw [in_subquery_decision]; exact hp
  show inList dim (clusterRun x pk parts (.table (asSubQ q)) s) = inList dim (run x (asSubQ q) s parts.flatten)
  rw [clusterRun_nonpushdown x pk parts (asSubQ q) s hp', nonpushdown_equiv x (asSubQ q) hq s parts hob hord]

def inSubQ : Query :=
  { fields := [("x", .agg .sum (.field "x"))],
    having := some (.bin .gt (.agg .sum (.field "a")) (.const 130)),
    by_ := [dimGB "x"], byAll := false }

def inSubRows : List PRow :=
  [⟨[("x", .str "p"), ("y", .int .int 1)], 10, [("_point", 1), ("a", 60)]⟩,
   ⟨[("x", .str "p"), ("y", .int .int 2)], 10, [("_point", 1), ("a", 120)]⟩,
   ⟨[("x", .str "q"), ("y", .int .int 1)], 10, [("_point", 1), ("a", 100)]⟩]

def inSubHash : DKey → Nat := fun k => match k.get "y" with
  | some (.int _ 1) => 0
  | _ => 1

def inSubSrc : Src := { res := 1, hi := 10 }

def inSubParts : List (List PRow) :=
  splitBy (fun r => partitionFor inSubHash ["y"] r.key 2) 2 inSubRows

/-- The regression "an IN-subquery may always be pushed down, only the distinct values of its
    dimension matter": `WHERE x IN (SELECT x FROM t GROUP BY x HAVING a > 130)` on a table
    partitioned by `y`.  The group x = p has 60 on one partition and 120 on the other (total
    180): pushed down whole, no partition lets it pass and the IN list is empty; the local
    plan and the real cluster plan (which refuses the pushdown) both yield [p]. -/
theorem in_subquery_forced_pushdown_differs :
    pushdownAllowed ["y"] (.table inSubQ) = false ∧
    inList "x" (forcedPushdown default inSubParts (asSub (.table inSubQ)) inSubSrc) = [] ∧
    inListCluster default ["y"] inSubParts (.table inSubQ) inSubSrc "x" = [some (.str "p")] ∧
    inListLocal default (.table inSubQ) inSubSrc "x" inSubParts.flatten = [some (.str "p")] := by
  decide +kernel

/-- The length/position contract of `Opts.SubQueryResults`: when the lists shipped with a
    statement are, position by position, the lists the leader resolved for the IN-subqueries of
    that statement (one per sub-query, in `WhereSubQueries` order), every partition filters with
    the leader's WHERE function — whatever the partition's own data would give. -/
theorem shipped_lists_positional (comb : List Bool → DKey → Bool) (dims : List String)
    (leader own shipped : List InVals) (hs : shipped = leader) (hl : leader.length = own.length) :
    whereWith comb dims (partitionLists shipped own) = whereWith comb dims leader := by
  subst hs
  simp [partitionLists, hl]

/-- If the number of shipped lists is not the number of IN-subqueries the partition falls back
    to planning and running them itself: it filters with its OWN lists. -/
theorem shipped_count_mismatch_uses_own_lists (comb : List Bool → DKey → Bool) (dims : List String)
    (own shipped : List InVals) (hl : shipped.length ≠ own.length) :
    whereWith comb dims (partitionLists shipped own) = whereWith comb dims own := by
  simp [partitionLists, hl]

/-- The regression "identical IN-subqueries are resolved once, one result per DISTINCT
    sub-query is returned": `x IN (S) OR y IN (S)`, leader lists [L, L], shipped [L]; a
    partition whose own rows give S = [] drops the key (x = p) that the leader's filter keeps. -/
theorem shipped_deduplicated_results_differ :
    let L : InVals := [some (.str "p")]
    let comb : List Bool → DKey → Bool := fun bs _ => bs.any id
    whereWith comb ["x", "y"] (partitionLists [L] [[], []]) [("x", .str "p")] = false ∧
    whereWith comb ["x", "y"] [L, L] [("x", .str "p")] = true := by
  decide +kernel

/-- … and results shipped in another order are set on the wrong sub-queries. -/
theorem shipped_reversed_results_differ :
    let L₁ : InVals := [some (.str "p")]
    let L₂ : InVals := [some (.int .int 2)]
    let comb : List Bool → DKey → Bool := fun bs _ => bs.any id
    whereWith comb ["x", "y"] (partitionLists [L₂, L₁] [[], []]) [("x", .str "p")] = false ∧
    whereWith comb ["x", "y"] [L₁, L₂] [("x", .str "p")] = true := by
  decide +kernel

/-- The table clause of `pushdownAllowed` (/repo d1dff43): it only ever refuses, so every
    pushdown theorem applies under `pushdownAllowedT`; and when it holds the partition of a
    point is the partition of the row key the table stores (the `Routed` hypothesis is about
    stored keys). -/
theorem pushdownAllowedT_sound (tgb pk : List String) (t : QTree)
    (h : pushdownAllowedT tgb pk t = true) :
    pushdownAllowed pk t = true ∧ ∀ k : DKey, pkProj pk (storedKey tgb k) = pkProj pk k := by
  unfold pushdownAllowedT at h
  simp only [Bool.and_eq_true] at h
  exact ⟨h.2, pkProj_storedKey tgb pk h.1⟩

/-- The leader's state of every field equals `Ex.acc` over the group's rows ALSO when the
    partition-side select list `fields` contains overlapping expressions (IF(c, f) next to f,
    f + g next to f, the same aggregate under two names): with pass-through fields the
    sub-merger matching, reduced to "first input column with the output's own expression, and
    nothing else" (`pickExact`: exact match wins over matches of parts + bytetree's input
    de-duplication), merges each output column from its own column only. -/
theorem nonpushdown_state_overlapping (q : Query) (hq : NPWF q) (s : Src) (G : DKey × Int)
    (sel : Option String) (hsel : sel = none ∨ q.ctab.isSome = true) (fields : List Ex) (e : Ex)
    (he : e ∈ fields) (hv : e.valid = true) (hp : e.noPtile = true) (parts : List (List PRow)) :
    leaderStateCols fields e sel
        ((parts.flatMap (runStates x (rewriteAst q) s)).filter (fun m => cid q m == G)) =
      e.acc x ((((parts.flatten.filter (admits q s)).filter (fun r => gid q s r == G)).filter
        (selR q sel)).map (toPt q)) := by
  rw [leaderStateCols_eq fields e he]
  exact nonpushdown_state x q hq s G sel hsel e hv hp parts

/-- 0 = no sub-merger, 1 = the expression's own `Merge` (exact match), 2 = anything else
    (conditional / combined / shifted merge of a part) -/
def smTag : Option SM → Nat
  | none => 0
  | some (.direct _) => 1
  | some _ => 2

/-- what `bytetree.New` computes for output column `o` over the input columns `ins` -/
def mergeRow (ins : List Ex) (o : Ex) : List Nat := (dedupInputs ins (o.subMergers ins)).map smTag

def ovA : Ex := .agg .sum (.field "a")
def ovB : Ex := .agg .sum (.field "b")
def ovIf : Ex := .ifE 0 ovA
def ovSum : Ex := .bin .add ovA ovB
def ovMix : Ex := .bin .add ovIf ovB

/-- The real matching rules (Model/SubMerge.lean: `Ex.subMergers` + `dedupInputs`) on
    overlapping pass-through select lists give the diagonal that `pickExact` states: every
    output column is merged from its own input column, directly, and from no other —
    `a, IF(c, a)`; `IF(c, a), a, b`; `a, a + b`; `a, b, IF(c, a) + b, IF(c, a)`; `a, a, IF(c, a)`. -/
theorem overlapping_columns_merge_diagonally :
    mergeRow [ovA, ovIf] ovA = [1, 0] ∧ mergeRow [ovA, ovIf] ovIf = [0, 1] ∧
    mergeRow [ovIf, ovA, ovB] ovIf = [1, 0, 0] ∧ mergeRow [ovIf, ovA, ovB] ovA = [0, 1, 0] ∧
    mergeRow [ovA, ovSum] ovSum = [0, 1] ∧ mergeRow [ovA, ovSum] ovA = [1, 0] ∧
    mergeRow [ovA, ovB, ovMix, ovIf] ovMix = [0, 0, 1, 0] ∧
    mergeRow [ovA, ovB, ovMix, ovIf] ovIf = [0, 0, 0, 1] ∧
    mergeRow [ovA, ovA, ovIf] ovA = [1, 0, 0] ∧ mergeRow [ovA, ovA, ovIf] ovIf = [0, 0, 1] := by
  decide +kernel

/-- the rule "ifExpr.SubMergers decides per column": an exact match merges as is, every other
    column gets the conditional merge of whatever the wrapped expression matches -/
def ifSubMergersPerColumn (c : Nat) (w : Ex) (subs : List Ex) : List (Option SM) :=
  (List.zip subs (w.subMergers subs)).map (fun p =>
    if (Ex.ifE c w).sameStr p.1 then some (.direct (.ifE c w)) else p.2.map (SM.cond c))

/-- The regression of that rule: for the select list `a, IF(c, a)` the IF output is merged from
    BOTH input columns (doubled where the condition holds on the leader's key). -/
theorem per_column_if_rule_merges_twice :
    (dedupInputs [ovA, ovIf] (ifSubMergersPerColumn 0 ovA [ovA, ovIf])).map smTag = [2, 1] ∧
    mergeRow [ovA, ovIf] ovIf = [0, 1] := by
  decide +kernel

/-- After the fix the partition-side SQL is the rendering of the AST rewrite, for every
    statement: GROUP BY / HAVING / ORDER BY / LIMIT cleared, the HAVING condition appended to
    the select list, the synthesised GROUP BY in the GROUP BY position. -/
theorem rewriteText_refines_ast (s : QSyn) (i : RwInfo) (ct : Option (List Char)) :
    rewriteText s i ct = render (partSyn s i ct) := by
  rw [rewriteText, render_stripSyn, withGroupBy]
  split <;> simp [*, partSyn, render, renderHead, renderTail, clause, stripSyn]

/-- The text surgery as found produced the same text (modulo blanks) only under the decidable
    hypothesis that each searched keyword is found first at the outer clause. -/
theorem rewriteTextPre_refines_ast (s : QSyn) (i : RwInfo) (ct : Option (List Char))
    (h : OuterClauseFirst s i ct) :
    (rewriteTextPre (render s) s.frm i).map despace = some (despace (rewriteText s i ct)) := by
  obtain ⟨g, hg⟩ := h.gbText
  -- the text is cut right after the blank that follows the head
  have hcut : (render s).take ((renderHead s).length + 1) = renderHead s ++ [' '] := by
    simp only [render, hg, clause, List.append_assoc, List.cons_append]
    exact List.take_length_add_append 1
  have hpos : (renderHead s).length + 1 > 0 := by omega
  simp only [rewriteTextPre, h.gb, h.ctab, hpos, if_true, hcut, rewriteText, render_stripSyn]
  by_cases hh : i.hasHaving = true
  · -- the HAVING condition goes in front of " from": the head is split after the select list
    have hle : (tSelect ++ s.sel).length + 1 ≤ (renderHead s ++ [' ']).length := by
      simp only [renderHead, List.length_append, List.length_cons]
      omega
    have hsplit : renderHead s ++ [' '] =
        (tSelect ++ s.sel) ++ ' ' :: (tFrom ++ s.frm ++ s.timeRange ++ clause tWhere s.whr ++ [' ']) := by
      simp only [renderHead, List.append_assoc, List.cons_append]
    simp only [hh, if_true, h.frm hh, hle, Option.map_some]
    rw [hsplit, List.take_length_add_append, List.drop_length_add_append]
    refine congrArg some (despace_withGroupBy ?_ _)
    simp [despace_append, despace_space, despace_nil, renderHead, stripSyn, hh]
  · have hh' : i.hasHaving = false := by simpa using hh
    simp only [hh', Bool.false_eq_true, if_false, Option.map_some]
    refine congrArg some (despace_withGroupBy ?_ _)
    simp [despace_append, despace_space, despace_nil, renderHead, stripSyn, hh']

def d6Syn : QSyn :=
  { sel := "a".toList, frm := "t".toList, whr := some "x = 'group by '".toList,
    groupBy := some "y".toList }
def d6Info : RwInfo :=
  { hasHaving := false, havingSQL := [], groupByAll := false, params := ["y".toList], hasGroupBy := true }

/-- D6: `WHERE x = 'group by '`.  The text surgery cuts inside the string literal. -/
theorem d6_text_surgery_cuts_inside_literal :
    rewriteTextPre (render d6Syn) d6Syn.frm d6Info =
      some "select a from t where x = ' group by y".toList ∧
    rewriteText d6Syn d6Info none = "select a from t where x = 'group by ' group by y".toList ∧
    indexOf tGroupBy (lower (render d6Syn)) ≠ some ((renderHead d6Syn).length + 1) := by
  -- the literals are unfolded to their characters by `String.toList_ofList`: evaluating
  -- `String.toList` on a literal decodes its UTF-8 bytes, quadratic in its length
  rw [String.toList_ofList, String.toList_ofList]
  decide +kernel

def d6SubSyn : QSyn :=
  { sel := "a".toList, frm := "t".toList, whr := some "x in (select x from t group by x)".toList,
    groupBy := some "y".toList }

/-- D6: an IN-subquery with its own GROUP BY: the text surgery cuts inside the sub-query. -/
theorem d6_text_surgery_cuts_inside_subquery :
    rewriteTextPre (render d6SubSyn) d6SubSyn.frm d6Info =
      some "select a from t where x in (select x from t  group by y".toList := by
  rw [String.toList_ofList]
  decide +kernel

def d6CtabSyn : QSyn :=
  { sel := "a".toList, frm := "t".toList, whr := some "z != 'crosstab(z)'".toList,
    groupBy := some "y".toList }

/-- D6: the word CROSSTAB inside a string literal makes a query without CROSSTAB a crosstab
    query (`query.Crosstab = core.ClusterCrosstab`). -/
theorem d6_spurious_crosstab :
    concatForCrosstabPre (render d6CtabSyn) = "concat('_', z) as _crosstab".toList ∧
    concatForCrosstab none = [] := by
  rw [String.toList_ofList]
  decide +kernel

/-- a text on which the hypothesis holds (non-vacuity of `rewriteTextPre_refines_ast`) -/
def okSyn : QSyn :=
  { sel := "a".toList, frm := "t".toList, whr := some "x = 'b'".toList,
    groupBy := some "concat('_', x, y) as xy, crosstab(z)".toList,
    having := some "a > 1".toList, orderBy := some "a desc".toList, limit := some "3".toList }
def okInfo : RwInfo :=
  { hasHaving := true, havingSQL := "a > 1 AS _having".toList, groupByAll := false,
    params := ["x".toList, "y".toList], hasGroupBy := true }

set_option maxRecDepth 100000 in
example : indexOf tGroupBy (lower (render okSyn)) = some ((renderHead okSyn).length + 1) := by decide +kernel
set_option maxRecDepth 100000 in
example : indexOf (tFrom ++ lower okSyn.frm) (lower (render okSyn)) =
    some ((tSelect ++ okSyn.sel).length + 1) := by decide +kernel
set_option maxRecDepth 100000 in
example : concatForCrosstabPre (render okSyn) = concatForCrosstab (some "z".toList) := by decide +kernel
set_option maxRecDepth 100000 in
example : rewriteText okSyn okInfo (some "z".toList) =
    "select a, a > 1 AS _having from t where x = 'b' group by x, y, concat('_', z) as _crosstab".toList := by
  rw [String.toList_ofList, String.toList_ofList]
  decide +kernel

/-- LEN(x) as goexpr declares it: one-to-one in `x` -/
def lenGB : GroupBy :=
  { name := "len_x", params := [("x", true)],
    eval := fun k => match k.get "x" with
      | some (.str v) => some (.int .int v.length)
      | _ => none }

/-- LEN(x) is declared one-to-one in `x` by goexpr, but it is not: `GBSound`, which `QWF.sound`
    asks of every GROUP BY expression (so the hypothesis `TreeWF` of `pushdown_sound`), fails for
    it (known finding C11-len-declared-one-to-one). -/
theorem len_not_one_to_one : ¬ GBSound lenGB := by
  intro h
  have := h [("x", .str "ab")] [("x", .str "cd")] (by decide +kernel) "x" (by decide +kernel)
  revert this
  decide +kernel

def lenQ : Query := { fields := [("a", .agg .sum (.field "a"))], by_ := [lenGB], byAll := false }

/-- with that declaration the query `GROUP BY LEN(x)` on a table partitioned by `x` is pushed
    down although the group `len_x = 2` has rows in every partition that holds "ab" or "cd" -/
theorem len_pushed_down : pushdownAllowed ["x"] (.table lenQ) = true ∧
    chainKey (.table lenQ) [("x", .str "ab")] = chainKey (.table lenQ) [("x", .str "cd")] ∧
    pkProj ["x"] [("x", .str "ab")] ≠ pkProj ["x"] [("x", .str "cd")] := by
  decide +kernel

def plainQ : Query := { fields := [("a", .agg .sum (.field "a"))] }
def limitQ : Query := { fields := [("a", .agg .sum (.field "a"))], olo := { orderBy := [], limit := 1, offset := 0 } }
def nested3 : QTree := .sub plainQ (.sub plainQ (.table limitQ))

/-- Before fix-02 only the immediate FROM-subquery was inspected for ORDER BY / LIMIT: a
    LIMIT two levels down was pushed to every partition. -/
theorem nested_limit_was_pushed_down :
    pushdownAllowedPre ["x"] nested3 = true ∧ pushdownAllowed ["x"] nested3 = false := by
  decide

/-! non-vacuity of the equivalence theorems: a query, a table, two partition-key choices -/

def exQ : Query :=
  { fields := [("a", .agg .sum (.field "a")),
               ("r", .bin .div (.agg .sum (.field "a")) (.avg (.field "b") (.const 1)))],
    having := some (.bin .gt (.agg .sum (.field "a")) (.const 1)),
    by_ := [dimGB "x"], byAll := false,
    olo := { orderBy := [{ field := "a", desc := true }], limit := 0, offset := 0 } }

def exRows : List PRow :=
  [⟨[("x", .str "p"), ("y", .int .int 1)], 10, [("a", 3), ("b", 4)]⟩,
   ⟨[("x", .str "q"), ("y", .int .int 1)], 10, [("a", 1), ("b", 2)]⟩,
   ⟨[("x", .str "p"), ("y", .int .int 2)], 10, [("a", 5), ("b", 2)]⟩,
   ⟨[("x", .str "q"), ("y", .int .int 2)], 10, [("a", 2), ("b", 6)]⟩]

def exSrc : Src := { res := 1, hi := 10 }

/-- hash: by the first partition-key value -/
def exHash : DKey → Nat := fun k => match k with
  | (_, .str "p") :: _ => 0
  | (_, .int _ 1) :: _ => 0
  | _ => 1

def exParts (pk : List String) : List (List PRow) :=
  splitBy (fun r => partitionFor exHash pk r.key 2) 2 exRows

example : QWF exQ := ⟨by decide, by
  intro g hg k₁ k₂ he p hp
  simp only [exQ, List.mem_singleton] at hg
  subst hg
  simp only [dimGB, GroupBy.oneToOne, List.filter, List.map, List.mem_singleton] at hp
  subst hp
  exact he, by decide⟩

example : NPWF exQ := ⟨by decide, by
  intro g hg k₁ k₂ he
  simp only [exQ, List.mem_singleton] at hg
  subst hg
  exact he "x" (by decide), by decide⟩

-- partitioned by x: pushed down; partitioned by y: pre-aggregation by x on the partitions
example : pushdownAllowed ["x"] (.table exQ) = true ∧ pushdownAllowed ["y"] (.table exQ) = false := by
  decide +kernel
example : exParts ["y"] = [[exRows[0], exRows[1]], [exRows[2], exRows[3]]] := by decide +kernel
example : (run default exQ exSrc exRows).map (·.fields) = [[("a", 8), ("r", 8/3)], [("a", 3), ("r", 3/4)]] := by
  decide +kernel
example : clusterRun default ["y"] (exParts ["y"]) (.table exQ) exSrc = run default exQ exSrc exRows := by
  decide +kernel
example : clusterRun default ["x"] (exParts ["x"]) (.table exQ) exSrc = run default exQ exSrc exRows := by
  decide +kernel

end Zeno.C11
