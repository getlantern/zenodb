/-
C03 — query results do not depend on flush timing or on where data currently lives.

One column of the row store (see the header of Props/C01.lean for what a script is and
how the list plumbing and the table level are tied to the code).
-/
import ZenoModel.Lemmas.ColumnSpec

namespace Zeno.C03
open Zeno

variable (x : Ext)

/-- Any two scripts that differ only in where their flushes are (how many, where, raw
    pass-through or re-encoding/truncating) give the same memstore-inclusive view on every
    period that has not expired. -/
theorem view_schedule_independent (cfg : ColCfg) (hv : cfg.e.valid = true) (hp : cfg.e.noPtile = true)
    (hres : 0 < cfg.res) (ops₁ ops₂ : List ColOp) (h₁ : OpsPos ops₁) (h₂ : OpsPos ops₂)
    (hsame : noFlush ops₁ = noFlush ops₂) (T : Int)
    (hl : Live cfg (Col.run x cfg ops₁).now T) (hT0 : 0 < T) :
    ((Col.run x cfg ops₁).view cfg true).at cfg.e cfg.res T =
      ((Col.run x cfg ops₂).view cfg true).at cfg.e cfg.res T := by
  have i₁ := colInv_run x cfg hv hp hres ops₁ h₁
  have i₂ := colInv_run x cfg hv hp hres ops₂ h₂
  have hs := spec_run_noFlush x cfg hsame
  have hnow : (Col.run x cfg ops₂).now = (Col.run x cfg ops₁).now := by
    rw [i₁.now_eq, i₂.now_eq, hs]
  rw [view_eq_spec x cfg hv hp hres i₁ T hl hT0,
    view_eq_spec x cfg hv hp hres i₂ T (by rw [hnow]; exact hl) hT0, hs]

/-- The clock does not depend on the flush schedule either. -/
theorem clock_schedule_independent (cfg : ColCfg) (hv : cfg.e.valid = true) (hp : cfg.e.noPtile = true)
    (hres : 0 < cfg.res) (ops₁ ops₂ : List ColOp) (h₁ : OpsPos ops₁) (h₂ : OpsPos ops₂)
    (hsame : noFlush ops₁ = noFlush ops₂) :
    (Col.run x cfg ops₁).now = (Col.run x cfg ops₂).now := by
  rw [(colInv_run x cfg hv hp hres ops₁ h₁).now_eq, (colInv_run x cfg hv hp hres ops₂ h₂).now_eq,
    spec_run_noFlush x cfg hsame]

/-- A single flush (of either kind) does not change the memstore-inclusive view of a live
    period. -/
theorem view_flush (cfg : ColCfg) (hv : cfg.e.valid = true) (hp : cfg.e.noPtile = true)
    (hres : 0 < cfg.res) (ops : List ColOp) (hpos : OpsPos ops) (raw : Bool) (T : Int)
    (hl : Live cfg (Col.run x cfg ops).now T) (hT0 : 0 < T) :
    ((Col.run x cfg (ops ++ [.flush raw])).view cfg true).at cfg.e cfg.res T =
      ((Col.run x cfg ops).view cfg true).at cfg.e cfg.res T := by
  have hp2 : OpsPos (ops ++ [.flush raw]) := opsPos_append hpos trivial
  have hnf : noFlush (ops ++ [.flush raw]) = noFlush ops := by
    rw [noFlush_append]
    simp [noFlush]
  have hnow := clock_schedule_independent x cfg hv hp hres _ _ hp2 hpos hnf
  exact view_schedule_independent x cfg hv hp hres _ _ hp2 hpos hnf T (by rw [hnow]; exact hl) hT0

/-- Immediately after a flush the memstore is empty, so a disk-only scan hands out the very
    same series as a memstore-inclusive one. -/
theorem disk_equals_mem_after_flush (cfg : ColCfg) (ops : List ColOp) (raw : Bool) :
    (Col.run x cfg (ops ++ [.flush raw])).view cfg false =
      (Col.run x cfg (ops ++ [.flush raw])).view cfg true := by
  have hm : (Col.run x cfg (ops ++ [.flush raw])).mem = none := by
    unfold Col.run
    rw [List.foldl_append]
    simp only [List.foldl, Col.step]
    split
    · rename_i hc
      simp only [Bool.and_eq_true, Option.isNone_iff_eq_none] at hc
      exact hc.2
    · rfl
  simp only [Col.view, hm, Bool.false_eq_true, if_false, if_true]
  cases (Col.run x cfg (ops ++ [.flush raw])).file <;> simp [Sq.merge]

/-- Where a period's data lives is irrelevant: a scan returns the merge of the file part and
    the memory part (on live periods), for any split between them. -/
theorem view_is_merge {e : Ex} (hv : e.valid = true) (hp : e.noPtile = true) {res : Int} (h : 0 < res)
    (file mem : Sq) (hf : SqOk res file) (hm : SqOk res mem) (wf : SqWF e file) (wm : SqWF e mem)
    (tb T : Int) (hT : T % res = 0) (hgt : T > tb) (hT0 : 0 < T) :
    (Sq.merge e res file mem tb).at e res T = e.mrg (file.at e res T) (mem.at e res T) :=
  sem_merge_live hv hp h file mem hf hm wf wm tb T hT hgt

/-! Non-vacuity -/

def exCfg : ColCfg := { e := .agg .sum (.field "a"), res := 10, retention := 100 }
def exA : List ColOp :=
  [.ingest 1003 { vals := [("a", 2)] }, .flush false, .ingest 1001 { vals := [("a", 5)] }, .flush true]
def exB : List ColOp :=
  [.flush true, .ingest 1003 { vals := [("a", 2)] }, .ingest 1001 { vals := [("a", 5)] }]

example : noFlush exA = noFlush exB ∧ OpsPos exA ∧ OpsPos exB := by
  refine ⟨by decide +kernel, ?_, ?_⟩ <;> simp [exA, exB, OpsPos]
example : ((Col.run default exCfg exA).view exCfg true).at exCfg.e exCfg.res 1010 = [.agg (some 7)] ∧
    ((Col.run default exCfg exB).view exCfg true).at exCfg.e exCfg.res 1010 = [.agg (some 7)] := by
  decide +kernel

end Zeno.C03
