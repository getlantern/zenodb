/-
EndToEnd — C06/C07 from the store script to the result: the grouped cell (`group_cell_end_to_end`,
`group_cell_outside_window_empty`) and the rows read out of it (`runQuery_rows_are_specQuery_rows`).

The store half (Props/StoreProj.lean: the scan of `runStore x cfg ops` at (key, field, live period)
is `ex.acc` over the raw rows `tableRowsFor` reads off the script) and the query half
(Props/SubMergeSem.lean: the cell `groupRows` computes is `ex.acc` over `specQuery`'s bucket, GIVEN
`hstore`/`hkeys`/`hcover`/`hper` about the scan) are composed:

* the two raw-point vocabularies agree (`tableRowsFor_is_acceptedRows`, `accepted_clock_is_store_clock`);
* the window `planLocal` hands to `core.Group` lies inside the store's live range
  (`window_inside_live_range`: both roundings of `tableAsOf` go up — no gap at the boundary);
* `hper`, `hkeys`, `hstore` are discharged for scans of `runStore x cfg ops`
  (`accepted_periods_on_grid`, `scan_one_row_per_key`, `scan_state_is_accepted_rows`), also when the
  query scans only the fields it needs (`included_scan_reads_full_scan`);
* `hcover` is met by restricting the accepted rows to scanned keys: a key without a scan row only has
  empty states (`unscanned_key_is_empty`), which a bucket can do without (`bucket_without_unscanned_keys`);
* the read-out: `Flatten` on a grouped row, at a grid time, builds the row `specOut` builds for the
  bucket (`flatten_row_members`, `flatten_reads_spec_bucket`), and neither side repeats a row.

Hypotheses are explained at the theorems and in handoff/EndToEnd.md.
-/
import ZenoModel.Lemmas.EndToEndCell

namespace Zeno.EndToEnd
open Zeno

variable (x : Ext)

/-- StoreProj's per-(key, period) spec of a store script is the (key, period) slice — in
    arrival order — of QuerySpec's `acceptedRows` on the points of the script (`dup = true`: the
    store inserts extra array rows twice, known finding C01-array-double). -/
theorem tableRowsFor_is_acceptedRows (cfg : TableCfg) (key : Key) (T : Int) (ops : List StoreOp) :
    tableRowsFor cfg key T 0 ops =
      ((acceptedRows cfg true (pointsOf ops)).1.filter (fun a => a.key == key && a.period == T)).map (·.pt) := by
  rw [tableRowsFor_eq_keyPeriodPts, acceptedRows_eq]; rfl

/-- the clock `acceptedRows` threads over the points is the store's clock after the script:
    flushes do not move it -/
theorem accepted_clock_is_store_clock (cfg : TableCfg) (dup : Bool) (ops : List StoreOp) :
    (acceptedRows cfg dup (pointsOf ops)).2 = (runStore x cfg ops).now := by
  rw [acceptedRows_eq, runStore_now, nowAfter_eq_clockFrom]

/-- two scripts that differ only in their flushes have the same points, hence the same accepted rows -/
theorem accepted_rows_ignore_flushes (cfg : TableCfg) (dup : Bool) (ops₁ ops₂ : List StoreOp)
    (hsame : eraseFlush ops₁ = eraseFlush ops₂) :
    acceptedRows cfg dup (pointsOf ops₁) = acceptedRows cfg dup (pointsOf ops₂) := by
  rw [← pointsOf_eraseFlush ops₁, ← pointsOf_eraseFlush ops₂, hsame]

/-- `hper`: accepted rows lie on the table's period grid -/
theorem accepted_periods_on_grid (cfg : TableCfg) (hres : 0 < cfg.res) (dup : Bool) (ps : List RawPoint) :
    ∀ a ∈ (acceptedRows cfg dup ps).1, a.period % cfg.res = 0 :=
  acceptedRows_period cfg hres dup ps

/-- what `core.Group` uses as window is the plan's window, which starts at or after the table's -/
theorem group_window_is_plan_window (cfg : TableCfg) (now : Int) (q : Query) (pl : Plan)
    (h : planLocal cfg now q = .ok pl) :
    gAsOfOf cfg now pl = pl.asOf ∧ gUntilOf cfg now pl = pl.hi ∧ tableAsOf cfg now ≤ pl.asOf :=
  planLocal_gAsOf cfg now q pl h

/-- every period end inside the group window `(gAsOf, gUntil]` is later than the store's
    truncation bound `now − retention`: the store's guarantee covers the whole window -/
theorem window_inside_live_range (cfg : TableCfg) (now : Int) (q : Query) (pl : Plan)
    (h : planLocal cfg now q = .ok pl) (hres : 0 < cfg.res) (t : Int) (ht : gAsOfOf cfg now pl < t) :
    t > now - cfg.retention := by
  have := planLocal_window_live cfg now q pl h hres
  omega

/-- the side condition `0 < gAsOf` of the theorems below holds as soon as the clock has passed the
    retention period (the table's window does not reach back to Go's zero time) -/
theorem window_start_positive (cfg : TableCfg) (now : Int) (q : Query) (pl : Plan)
    (h : planLocal cfg now q = .ok pl) (hres : 0 < cfg.res) (hret : cfg.retention < now) :
    0 < gAsOfOf cfg now pl := by
  have := planLocal_window_live cfg now q pl h hres
  omega

/-- `hkeys`: a memstore-inclusive scan of any requested field list yields each key once -/
theorem scan_one_row_per_key (cfg : TableCfg) (wf : CfgWF cfg) (ops : List StoreOp) (hpos : StorePos ops)
    (out : List Field) : (((runStore x cfg ops).iterate cfg out true).rows.map (·.key)).Nodup :=
  nodup_keys_of_pairwise (scanG_keys_pairwise cfg _ (storeInv_run x cfg wf.res_pos ops hpos) out)

/-- `hstore`: inside the live range the state the full scan holds at (key, table field `ti`,
    period end `t` — on the grid or not) is the accumulation of the accepted rows of that key and
    period -/
theorem scan_state_is_accepted_rows (cfg : TableCfg) (wf : CfgWF cfg) (ops : List StoreOp) (hpos : StorePos ops)
    (key : Key) (ti : Nat) (hti : ti < cfg.fields.length)
    (hv : (cfg.fields[ti]).ex.valid = true) (hp : (cfg.fields[ti]).ex.noPtile = true) (t : Int)
    (hlive : t > (runStore x cfg ops).now - cfg.retention) (ht0 : 0 < t) :
    (scanCol cfg (runStore x cfg ops) true key ti).at (cfg.fields[ti]).ex cfg.res t =
      (cfg.fields[ti]).ex.acc x (keyPeriodPts (acceptedRows cfg true (pointsOf ops)).1 (·.pt) key t) :=
  scanCol_at_live x cfg wf ops hpos key ti hti hv hp t hlive ht0

/-- the scan a query performs (only the fields it needs: `includedFields`) reads, at the position
    `j` of table field `ti`, what the full scan reads at `ti`: every row has the column, it is the
    full scan's, and a key that has no row reads `none` in the full scan too -/
theorem included_scan_reads_full_scan (cfg : TableCfg) (wf : CfgWF cfg) (ops : List StoreOp) (hpos : StorePos ops)
    (q : Query) (j ti : Nat) (hti : ti < cfg.fields.length)
    (hj : (includedFields cfg q)[j]? = some (cfg.fields[ti])) :
    (∀ r ∈ ((runStore x cfg ops).iterate cfg (includedFields cfg q) true).rows,
      j < r.cols.length ∧ r.cols.getD j none = scanCol cfg (runStore x cfg ops) true r.key ti) ∧
    (∀ κ, (∀ r ∈ ((runStore x cfg ops).iterate cfg (includedFields cfg q) true).rows, r.key ≠ κ) →
      scanCol cfg (runStore x cfg ops) true κ ti = none) := by
  have sv := scanView_included cfg wf.distinct _ (storeInv_run x cfg wf.res_pos ops hpos) q j ti hti hj
  exact ⟨fun r hr => ⟨sv.width r hr, sv.col r hr⟩, sv.cover⟩

/-- a key that the full scan does not read (`scanCol … = none`: no row) has, in every live period,
    accepted rows that accumulate to the empty state only -/
theorem unscanned_key_is_empty (cfg : TableCfg) (wf : CfgWF cfg) (ops : List StoreOp) (hpos : StorePos ops)
    (key : Key) (ti : Nat) (hti : ti < cfg.fields.length)
    (hv : (cfg.fields[ti]).ex.valid = true) (hp : (cfg.fields[ti]).ex.noPtile = true)
    (hnone : scanCol cfg (runStore x cfg ops) true key ti = none) (t : Int)
    (hlive : t > (runStore x cfg ops).now - cfg.retention) (ht0 : 0 < t) :
    (cfg.fields[ti]).ex.acc x (keyPeriodPts (acceptedRows cfg true (pointsOf ops)).1 (·.pt) key t) =
      (cfg.fields[ti]).ex.empty := by
  rw [← scanCol_at_live x cfg wf ops hpos key ti hti hv hp t hlive ht0, hnone]; rfl

/-- dropping the rows of such keys from a bucket does not change its accumulation -/
theorem bucket_without_unscanned_keys {e : Ex} (hv : e.valid = true) (hp : e.noPtile = true)
    (q : Query) (A : List AccRow) (adj : AccRow → Pt) (lo hi P : Int) (k : Key) (T : Int)
    (good : AccRow → Bool) (hgk : ∀ a b : AccRow, a.key = b.key → good a = good b)
    (hempty : ∀ a ∈ A, lo < a.period ∧ a.period ≤ hi → good a = false →
      e.acc x (keyPeriodPts A adj a.key a.period) = e.empty) :
    e.acc x (specBucketPts q A adj lo hi P k T) = e.acc x (specBucketPts q (A.filter good) adj lo hi P k T) :=
  specBucket_drop_uncovered x hv hp q A adj lo hi P k T good hgk hempty

/-- C06 + C07.  For every well-formed table configuration, every store script (points
    of any keys, array values, rejected points, flushes of either kind anywhere), and every grouped
    query whose plan succeeds at the store's clock, without STRIDE: take a selected field `f`
    (`i`-th of the query) that is one of the scanned table fields (`j`-th of `includedFields`, same
    expression; valid, no PERCENTILE, no SHIFT) and is sub-merged from that field alone, directly
    (`hone`; `table_aggregate_is_direct` below gives it for aggregates).  Then for every output key
    `k` and every out period end `T` on the query's grid, the cell `core.Group` computes over the
    memstore-inclusive scan of `runStore x cfg ops` — the scan `runQuery` performs, WHERE applied —
    is
    * inside the window `(gAsOf, gUntil]`: `f.ex.acc x` of exactly the accepted raw rows of the
      script (`acceptedRows`, as `specQuery` defines them, WHERE applied per key) whose key projects
      to `k` and whose period falls into the bucket `(T − P, T]` inside the window — `specQuery`'s
      bucket `(k, T)`, each row once, none from elsewhere;
    * outside the window: the empty state. -/
theorem group_cell_end_to_end (cfg : TableCfg) (wf : CfgWF cfg) (ops : List StoreOp) (hpos : StorePos ops)
    (q : Query) (metas : List KeyMeta) (pl : Plan)
    (hpl : planLocal cfg (runStore x cfg ops).now q = .ok pl) (hstride : q.stride ≤ 0)
    (hpos0 : 0 < gAsOfOf cfg (runStore x cfg ops).now pl)
    (i j : Nat) (f inF : Field) (hout : q.outFields[i]? = some f)
    (hin : (includedFields cfg q)[j]? = some inF) (hex : inF.ex = f.ex)
    (hv : f.ex.valid = true) (hp : f.ex.noPtile = true) (hs : f.ex.shiftOf = 0)
    (hone : OneHot (dedupInputs ((includedFields cfg q).map (·.ex))
      (f.ex.subMergers ((includedFields cfg q).map (·.ex)))) j f.ex)
    (hmetas : q.hasWhere = true → ∀ a ∈ (acceptedRows cfg true (pointsOf ops)).1, ∃ m ∈ metas, m.key = a.key)
    (k : Key) (T : Int) (hT : (gUntilOf cfg (runStore x cfg ops).now pl - T) % gResOf cfg pl = 0) :
    (groupCell cfg (runStore x cfg ops).now q pl (includedFields cfg q) metas
        (whereRows q metas ((runStore x cfg ops).iterate cfg (includedFields cfg q) true).rows) k i).at
        f.ex (gResOf cfg pl) T =
      if gAsOfOf cfg (runStore x cfg ops).now pl < T ∧ T ≤ gUntilOf cfg (runStore x cfg ops).now pl
      then f.ex.acc x (specBucketPts q (specRows q metas (acceptedRows cfg true (pointsOf ops)).1) (·.pt)
        (gAsOfOf cfg (runStore x cfg ops).now pl) (gUntilOf cfg (runStore x cfg ops).now pl) (gResOf cfg pl) k T)
      else f.ex.empty :=
  e2e_cell_included x ⟨wf, hpos, hpl, hstride, hpos0, hmetas⟩ i f hout ⟨⟨j, inF, hin, hex, hone⟩, hv, hp, hs⟩ k T hT

/-- `whereRows` is the filter `runQuery` applies to its scan -/
theorem whereRows_is_runQuery_filter (q : Query) (metas : List KeyMeta) (scan : List Row) :
    whereRows q metas scan =
      if q.hasWhere then
        scan.filter (fun r => ((metas.find? (fun m => m.key == r.key)).map (·.whereOk)).getD false)
      else scan := rfl

/-- C07 end-to-end: for any period end outside `(gAsOf, gUntil]` (on the out grid or not) the cell
    holds nothing -/
theorem group_cell_outside_window_empty (cfg : TableCfg) (wf : CfgWF cfg) (ops : List StoreOp) (hpos : StorePos ops)
    (q : Query) (metas : List KeyMeta) (pl : Plan)
    (hpl : planLocal cfg (runStore x cfg ops).now q = .ok pl) (hstride : q.stride ≤ 0)
    (hpos0 : 0 < gAsOfOf cfg (runStore x cfg ops).now pl)
    (i j : Nat) (f inF : Field) (hout : q.outFields[i]? = some f)
    (hin : (includedFields cfg q)[j]? = some inF) (hex : inF.ex = f.ex)
    (hv : f.ex.valid = true) (hp : f.ex.noPtile = true) (hs : f.ex.shiftOf = 0)
    (hone : OneHot (dedupInputs ((includedFields cfg q).map (·.ex))
      (f.ex.subMergers ((includedFields cfg q).map (·.ex)))) j f.ex)
    (k : Key) (T : Int)
    (hout' : ¬ (gAsOfOf cfg (runStore x cfg ops).now pl < T ∧ T ≤ gUntilOf cfg (runStore x cfg ops).now pl)) :
    (groupCell cfg (runStore x cfg ops).now q pl (includedFields cfg q) metas
        (whereRows q metas ((runStore x cfg ops).iterate cfg (includedFields cfg q) true).rows) k i).at
        f.ex (gResOf cfg pl) T = f.ex.empty := by
  obtain ⟨_, _, _, _, _, H⟩ := groupCell_included x wf hpos hpl hstride hpos0 (metas := metas) i f hout
    ⟨⟨j, inF, hin, hex, hone⟩, hv, hp, hs⟩
  exact (groupCell_inv H metas k).2 T hout'

/-- `specQuery` on the points of the script plans at the store's clock: it is `specOut` of the
    accepted rows under the very plan `runQuery` uses -/
theorem specQuery_on_script (cfg : TableCfg) (ops : List StoreOp) (q : Query) (metas : List KeyMeta) (pl : Plan)
    (hpl : planLocal cfg (runStore x cfg ops).now q = .ok pl) :
    specQuery x cfg true (pointsOf ops) q metas =
      .ok (specOut x cfg q metas (acceptedRows cfg true (pointsOf ops)).1 (runStore x cfg ops).now pl) :=
  specQuery_script x cfg ops q metas pl hpl

/-- For a selected expression without IF the accumulation of `group_cell_end_to_end` is the
    one `specOut` performs for the bucket (its points carry the key's IF conditions in addition) -/
theorem bucket_is_specOut_bucket {e : Ex} (h : e.noIf = true) (q : Query) (metas : List KeyMeta)
    (A : List AccRow) (lo hi P : Int) (k : Key) (T : Int) :
    e.acc x (specBucketPts q A (·.pt) lo hi P k T) = e.acc x (specBucketPts q A (specAdj metas) lo hi P k T) := by
  unfold specBucketPts
  exact (acc_map_specAdj x h metas _).symm

/-- no two of the fields print alike as expressions (stronger than `FieldsDistinct`, which also
    looks at the names; its failure is the known finding field-identity-collision) -/
def ExprsDistinct (fs : List Field) : Prop := fs.Pairwise (fun f g => f.ex.sameStr g.ex = false)

instance (fs : List Field) : Decidable (ExprsDistinct fs) := by unfold ExprsDistinct; exact inferInstance

/-- a selected aggregate that is a scanned table field, in a table whose field expressions print
    pairwise differently, is sub-merged from that field alone, directly -/
theorem table_aggregate_is_direct (cfg : TableCfg) (hd : ExprsDistinct cfg.fields) (q : Query) (j : Nat)
    (inF : Field) (kd : AggKind) (wd : Ex) (hin : (includedFields cfg q)[j]? = some inF)
    (hagg : inF.ex = .agg kd wd) :
    OneHot (dedupInputs ((includedFields cfg q).map (·.ex))
      ((Ex.agg kd wd).subMergers ((includedFields cfg q).map (·.ex)))) j (.agg kd wd) := by
  apply oneHot_of_table_aggregate
  · rw [List.getElem?_map, hin]; simp [hagg]
  · have hdi : ExprsDistinct (includedFields cfg q) := List.Pairwise.sublist (includedFields_sublist cfg q) hd
    intro a b ea eb hne ha hb
    rw [List.getElem?_map] at ha hb
    obtain ⟨fa, hfa, rfl⟩ := Option.map_eq_some_iff.mp ha
    obtain ⟨fb, hfb, rfl⟩ := Option.map_eq_some_iff.mp hb
    obtain ⟨hal, rfl⟩ := List.getElem?_eq_some_iff.mp hfa
    obtain ⟨hbl, rfl⟩ := List.getElem?_eq_some_iff.mp hfb
    have hpw := List.pairwise_iff_getElem.mp hdi
    rcases Nat.lt_or_gt_of_ne hne with hlt | hgt
    · exact hpw a b hal hbl hlt
    · have := hpw b a hbl hal hgt
      unfold Ex.sameStr at this ⊢
      rw [BEq.comm]; exact this

/-! ## The read-out (`core.Flatten`) against `specQuery`'s row construction

Bundles (Lemmas/EndToEndCell.lean): `E2ECtx x cfg ops q metas pl` = the store/plan
hypotheses of `group_cell_end_to_end` (`CfgWF`, `StorePos`, `planLocal … = .ok pl` at the store's
clock, no STRIDE, `0 < gAsOf`, WHERE bits for all keys); `ScannedField cfg q f` = `f` is a scanned
table field, directly sub-merged from it alone, valid, no PERCENTILE, no SHIFT; `PlainField x cfg q
metas f` = `ScannedField` + not constant + no value on the empty state (`f.ex.val x f.ex.empty = none`:
plain aggregates; expressions with a constant operand fail it — known finding empty-bucket-row) +
the per-key IF conditions of the query do not matter to it. -/

/-- the bundles are what `group_cell_end_to_end` assumes -/
theorem e2eCtx_intro (cfg : TableCfg) (wf : CfgWF cfg) (ops : List StoreOp) (hpos : StorePos ops)
    (q : Query) (metas : List KeyMeta) (pl : Plan)
    (hpl : planLocal cfg (runStore x cfg ops).now q = .ok pl) (hstride : q.stride ≤ 0)
    (hpos0 : 0 < gAsOfOf cfg (runStore x cfg ops).now pl)
    (hmetas : q.hasWhere = true → ∀ a ∈ (acceptedRows cfg true (pointsOf ops)).1, ∃ m ∈ metas, m.key = a.key) :
    E2ECtx x cfg ops q metas pl := ⟨wf, hpos, hpl, hstride, hpos0, hmetas⟩

/-- a selected aggregate without IF that is a scanned table field of a table whose field
    expressions print pairwise differently is a `PlainField` -/
theorem plain_aggregate (cfg : TableCfg) (hd : ExprsDistinct cfg.fields) (q : Query) (metas : List KeyMeta)
    (f inF : Field) (j : Nat) (kd : AggKind) (wd : Ex) (hin : (includedFields cfg q)[j]? = some inF)
    (hex : inF.ex = f.ex) (hagg : f.ex = .agg kd wd)
    (hv : f.ex.valid = true) (hp : f.ex.noPtile = true) (hs : f.ex.shiftOf = 0) (hnoif : f.ex.noIf = true) :
    PlainField x cfg q metas f := by
  refine ⟨⟨⟨j, inF, hin, hex, ?_⟩, hv, hp, hs⟩, by rw [hagg]; rfl, ?_, fun l => acc_map_specAdj x hnoif metas l⟩
  · rw [hagg]; exact table_aggregate_is_direct cfg hd q j inF kd wd hin (by rw [hex, hagg])
  · rw [hagg]; simp [Ex.val, Ex.get, Ex.empty]

/-- `core.Flatten` for one row, without its loop bounds: when the row's columns lie on one grid
    (`OnGrid`: empty, or `until` on the grid anchored at `hi0`), a row comes out for exactly the
    grid times `T` at which the loop body (`flatAt`) yields one — the loop runs from the earliest
    asOf to the latest until of the non-empty columns, and a non-constant expression has a value
    only inside its column's span, so nothing is lost outside the loop bounds -/
theorem flatten_row_members (fields : List Field) (res hi0 : Int) (r : Row) (hres : 0 < res)
    (hgrid : ∀ c ∈ r.cols, OnGrid res hi0 c) (row : QRow) :
    row ∈ flattenRow x fields res r ↔ ∃ T, (hi0 - T) % res = 0 ∧ flatAt x fields res r T = some row :=
  mem_flattenRow x fields res hi0 r hres hgrid row

/-- At an out-grid time `T`, the loop body of `Flatten` on the
    grouped row with key `g.key` yields exactly the row `specOut` builds for the bucket
    `(g.key, T)` (same emission rule, same values) inside the window, and nothing outside.  In
    particular a period without data between a group's first and last period (which `Flatten`'s
    loop visits and the spec does not) yields no row: every selected field reads `none` there. -/
theorem flatten_reads_spec_bucket {cfg : TableCfg} {ops : List StoreOp} {q : Query} {metas : List KeyMeta} {pl : Plan}
    (C : E2ECtx x cfg ops q metas pl) (hall : ∀ f ∈ q.outFields, PlainField x cfg q metas f)
    (g : Row) (hg : g ∈ e2eGroup x cfg ops q metas pl) (T : Int)
    (hT : (gUntilOf cfg (runStore x cfg ops).now pl - T) % gResOf cfg pl = 0) :
    flatAt x q.outFields (gResOf cfg pl) g T =
      if gAsOfOf cfg (runStore x cfg ops).now pl < T ∧ T ≤ gUntilOf cfg (runStore x cfg ops).now pl
      then specAt x q metas (specRows q metas (acceptedRows cfg true (pointsOf ops)).1)
        (gAsOfOf cfg (runStore x cfg ops).now pl) (gUntilOf cfg (runStore x cfg ops).now pl) (gResOf cfg pl) g.key T
      else none := by
  have R := plain_readOut x C hall
  have hd := hasData_of_noEmptyValues (fun f hf => Or.inr (hall f hf).noValueOnEmpty) (x := x) (q := q)
  rw [R.flatAt_data hg T hT (hd _)]
  split
  · rfl
  · rename_i hW
    -- outside the window the bucket is empty, and without data no plain field has a value
    cases h : specAt x q metas _ _ _ (gResOf cfg pl) g.key T with
    | none => rfl
    | some row =>
      exact absurd (specBucketPts_outside q _ _ C.resPos g.key T hW) (R.spec_row_grouped _ _ row hT (hd _) h).1

/-- neither side returns a row twice (rows are identified by (key, ts)) -/
theorem result_rows_nodup {cfg : TableCfg} {ops : List StoreOp} {q : Query} {metas : List KeyMeta} {pl : Plan}
    (C : E2ECtx x cfg ops q metas pl) :
    ((e2eGroup x cfg ops q metas pl).flatMap (flattenRow x q.outFields (gResOf cfg pl))).Nodup ∧
    ∀ A lo hi P, ((specBuckets q A lo hi P).filterMap (fun kT => specAt x q metas A lo hi P kT.1 kT.2)).Nodup :=
  ⟨flatMap_flattenRow_nodup x _ (groupRows_keys cfg _ q pl _ metas _).1 _ _ C.resPos,
    fun A lo hi P => specFlat_nodup x q metas A lo hi P⟩

/-- For a grouped query (`needsGroupBy`, no HAVING) all of whose selected fields
    are `PlainField`s: `runQuery` on the store reached by any script and `specQuery` on the points
    of that script both succeed, and return the same rows as multisets (`List.Perm`; the orders
    differ: `Flatten` goes key by key in time order, the spec in order of first arrival). -/
theorem runQuery_rows_are_specQuery_rows {cfg : TableCfg} {ops : List StoreOp} {q : Query} {metas : List KeyMeta}
    {pl : Plan} (C : E2ECtx x cfg ops q metas pl) (hall : ∀ f ∈ q.outFields, PlainField x cfg q metas f)
    (hne : q.outFields ≠ []) (hng : pl.needsGroupBy = true) (hh : q.hasHaving = false) :
    ∃ R S, runQuery x cfg (runStore x cfg ops) q metas true = .ok R ∧
      specQuery x cfg true (pointsOf ops) q metas = .ok S ∧ R.Perm S := by
  have hinc : (includedFields cfg q).isEmpty = false := by
    obtain ⟨f, hf⟩ := List.exists_mem_of_ne_nil _ hne
    obtain ⟨j, inF, hin, _⟩ := (hall f hf).scanned.scanned
    cases hi : includedFields cfg q with
    | nil => rw [hi] at hin; cases hin
    | cons a as => rfl
  have h1 := runQuery_grouped x cfg _ q metas pl C.plan hinc hng
  rw [hh] at h1
  refine ⟨_, _, h1, specQuery_script x cfg ops q metas pl C.plan, ?_⟩
  rw [specOut_eq x cfg q metas _ _ pl hh]
  exact (plain_readOut x C hall).perm (fun f hf => Or.inr (hall f hf).noValueOnEmpty)

/-! ## Non-vacuity: a three-field table, three keys (two of which project to the same output key),
an array value (three rows), a rejected point, points at the edge of the retention window, a raw
and a re-encoding flush; the query selects `a` only (so it scans `[a]`, a proper sub-list of the
table's fields), GROUP BY d (dropping e), period 20 = 2 × the table's. -/

def exA : Ex := .agg .sum (.field "a")
def exB : Ex := .agg .count (.field "b")
def exCfg : TableCfg :=
  { fields := [⟨"_points", .agg .sum (.field "_point")⟩, ⟨"a", exA⟩, ⟨"b", exB⟩],
    res := 10, retention := 100, groupBy := none }
def kx1 : Key := [("d", "1"), ("e", "x")]
def ky1 : Key := [("d", "1"), ("e", "y")]
def kx2 : Key := [("d", "2"), ("e", "x")]
def exOps : List StoreOp :=
  [.ingest { ts := 1003, dims := kx1, vals := [("a", [2]), ("b", [1])] },
   .ingest { ts := 1018, dims := ky1, vals := [("a", [5, 1])] },
   .flush false,
   .ingest { ts := 1021, dims := kx1, vals := [("a", [4])] },
   .ingest { ts := 1040, dims := kx2, vals := [("a", [3])] },
   .ingest { ts := 3, dims := kx1, vals := [("a", [9])] },
   .ingest { ts := 950, dims := ky1, vals := [("a", [7])] },
   .ingest { ts := 945, dims := kx2, vals := [("b", [7])] },
   .flush true,
   .ingest { ts := 1034, dims := ky1, vals := [("a", [8])] }]
def exQ : Query :=
  { outFields := [⟨"a", exA⟩], groupByAll := false, groupBy := ["d"], resolution := 20, hasSpecificFields := true }
def exPl : Plan := match planLocal exCfg 1040 exQ with | .ok p => p | .error _ => default
def exScan : List Row := ((runStore default exCfg exOps).iterate exCfg (includedFields exCfg exQ) true).rows
def exAcc : List AccRow := (acceptedRows exCfg true (pointsOf exOps)).1

example : CfgWF exCfg ∧ StorePos exOps ∧ ExprsDistinct exCfg.fields := by decide
private theorem exNow : (runStore default exCfg exOps).now = 1040 := by decide +kernel
private theorem exPlan : planLocal exCfg (runStore default exCfg exOps).now exQ = .ok exPl := by rw [exNow]; rfl
example : includedFields exCfg exQ = [⟨"a", exA⟩] := by decide +kernel
example : gAsOfOf exCfg 1040 exPl = 940 ∧ gUntilOf exCfg 1040 exPl = 1040 ∧ gResOf exCfg exPl = 20 := by decide +kernel
/-- nine accepted rows (the array point gives three, the point at ts 3 is rejected), one scan row per key -/
example : exAcc.length = 9 ∧ exScan.map (·.key) = [kx1, ky1, kx2] := by decide +kernel
/-- the vocabularies agree on the example: key (d=1,e=y), period 1020 has the three rows of the array point -/
example : (tableRowsFor exCfg ky1 1020 0 exOps).length = 3 ∧
    (exAcc.filter (fun a => a.key == ky1 && a.period == 1020)).length = 3 := by decide +kernel

/-- every hypothesis of `group_cell_end_to_end` holds on the example, so its conclusion is a
    statement about the cells computed below -/
example (k : Key) (T : Int) (hT : (gUntilOf exCfg (runStore default exCfg exOps).now exPl - T) % gResOf exCfg exPl = 0) :
    (groupCell exCfg (runStore default exCfg exOps).now exQ exPl (includedFields exCfg exQ) []
        (whereRows exQ [] exScan) k 0).at exA (gResOf exCfg exPl) T =
      if gAsOfOf exCfg (runStore default exCfg exOps).now exPl < T ∧ T ≤ gUntilOf exCfg (runStore default exCfg exOps).now exPl
      then exA.acc default (specBucketPts exQ (specRows exQ [] exAcc) (·.pt)
        (gAsOfOf exCfg (runStore default exCfg exOps).now exPl) (gUntilOf exCfg (runStore default exCfg exOps).now exPl)
        (gResOf exCfg exPl) k T)
      else exA.empty :=
  group_cell_end_to_end default exCfg (by decide) exOps (by decide) exQ [] exPl exPlan (by decide)
    (by rw [exNow]; decide +kernel) 0 0 ⟨"a", exA⟩ ⟨"a", exA⟩ rfl (by decide +kernel) rfl (by decide) (by decide) (by decide)
    (table_aggregate_is_direct exCfg (by decide) exQ 0 ⟨"a", exA⟩ .sum (.field "a") (by decide +kernel) rfl)
    (by intro h; cases h) k T hT

/-- both sides on the example.  Output key d=1 merges (d=1,e=x) and (d=1,e=y) and not (d=2,e=x);
    bucket 1040 = periods 1030 (4) + 1040 (8); bucket 1020 = periods 1010 (2) + 1020 (5+1+1: the
    extra array row twice); bucket 960 holds the point at 950, the first live period (940 is the
    window's exclusive start = the store's truncation bound) -/
example :
    [960, 980, 1000, 1020, 1040].map (fun T =>
      (groupCell exCfg 1040 exQ exPl (includedFields exCfg exQ) [] (whereRows exQ [] exScan) [("d", "1")] 0).at exA 20 T) =
      [[.agg (some 7)], [.agg none], [.agg none], [.agg (some 9)], [.agg (some 12)]] ∧
    [960, 980, 1000, 1020, 1040].map (fun T =>
      exA.acc default (specBucketPts exQ (specRows exQ [] exAcc) (·.pt) 940 1040 20 [("d", "1")] T)) =
      [[.agg (some 7)], [.agg none], [.agg none], [.agg (some 9)], [.agg (some 12)]] ∧
    [960, 980, 1000, 1020, 1040].map (fun T =>
      (specBucketPts exQ (specRows exQ [] exAcc) (·.pt) 940 1040 20 [("d", "1")] T).length) = [1, 0, 0, 4, 2] := by
  decide +kernel
/-- outside the window the cell is empty -/
example : (groupCell exCfg 1040 exQ exPl (includedFields exCfg exQ) [] (whereRows exQ [] exScan) [("d", "1")] 0).at exA 20 940 =
    exA.empty ∧
    (groupCell exCfg 1040 exQ exPl (includedFields exCfg exQ) [] (whereRows exQ [] exScan) [("d", "1")] 0).at exA 20 1060 =
    exA.empty := by decide +kernel

/-! Sharpness of `hmetas`: with a WHERE clause and no metadata for a key, `runQuery` drops the key's
    scan row (`getD false`) while `specQuery` keeps its accepted rows (`KeyMeta.whereOk` defaults to
    `true`): the two models only agree when the WHERE bit is supplied for every key of the script
    (the harness does). -/
example : (whereRows { exQ with hasWhere := true } [] exScan).length = 0 ∧
    (specRows { exQ with hasWhere := true } [] exAcc).length = 9 := by decide +kernel

private theorem exCtx : E2ECtx default exCfg exOps exQ [] exPl :=
  e2eCtx_intro default exCfg (by decide) exOps (by decide) exQ [] exPl exPlan (by decide)
    (by rw [exNow]; decide +kernel) (by intro h; cases h)
private theorem exPlain : ∀ f ∈ exQ.outFields, PlainField default exCfg exQ [] f := by
  intro f hf
  have ho : exQ.outFields = [⟨"a", exA⟩] := rfl
  rw [ho, List.mem_singleton] at hf
  subst hf
  exact plain_aggregate default exCfg (by decide) exQ [] ⟨"a", exA⟩ ⟨"a", exA⟩ 0 .sum (.field "a") (by decide +kernel) rfl rfl
    (by decide) (by decide) (by decide) (by decide)
example : ∃ R S, runQuery default exCfg (runStore default exCfg exOps) exQ [] true = .ok R ∧
    specQuery default exCfg true (pointsOf exOps) exQ [] = .ok S ∧ R.Perm S :=
  runQuery_rows_are_specQuery_rows default exCtx exPlain (by decide) (by decide +kernel) (by decide)
/-- both sides on the example: four rows; bucket (d=1, 980) and (d=1, 1000) lie between the first
    and the last period of the group d=1 and hold no data — no row (SUM reads `none` there) -/
example :
    (match runQuery default exCfg (runStore default exCfg exOps) exQ [] true with
      | .ok r => r.map (fun r => (r.ts, r.key, r.vals.length)) | .error _ => []) =
      [(960, [("d", "1")], 1), (1020, [("d", "1")], 1), (1040, [("d", "1")], 1), (1040, [("d", "2")], 1)] ∧
    (match specQuery default exCfg true (pointsOf exOps) exQ [] with
      | .ok r => r.map (fun r => (r.ts, r.key, r.vals.length)) | .error _ => []) =
      [(1020, [("d", "1")], 1), (1040, [("d", "1")], 1), (1040, [("d", "2")], 1), (960, [("d", "1")], 1)] := by
  decide +kernel
/-- the boundary of `noValueOnEmpty`: an expression with a constant operand has a value on the
    empty state (known finding empty-bucket-row), a plain aggregate has none -/
example : (Ex.bin .mul exA (.const 2)).val default (Ex.bin .mul exA (.const 2)).empty = some 0 ∧
    exA.val default exA.empty = none := by decide +kernel

end Zeno.EndToEnd
