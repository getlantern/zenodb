/-
C08 — WHERE, HAVING and IN-subquery filters keep exactly the matching rows.

Dimension predicates are opaque bits per row key (evaluated by the real goexpr in the
harness).  The spec `specQuery` applies WHERE to the accepted raw rows *before* bucketing
and HAVING to the finished rows *after* it; the `query` engine compares the real executor
with it, and with metamorphic differentials on the implementation alone.
-/
import ZenoModel.Model.QuerySpec

namespace Zeno.C08
open Zeno

/-- HAVING is a post-filter on the finished rows: a row is kept iff its helper column is 1. -/
theorem having_keeps_iff (rows : List QRow) (r : QRow) :
    r ∈ havingFilter rows ↔ ∃ r₀ ∈ rows, r₀.vals.getLast? = some 1 ∧ r = { r₀ with vals := r₀.vals.dropLast } := by
  unfold havingFilter
  simp only [List.mem_filterMap]
  constructor
  · rintro ⟨r₀, hm, hs⟩
    by_cases hc : r₀.vals.getLast? = some 1
    · rw [if_pos hc] at hs
      exact ⟨r₀, hm, hc, by cases hs; rfl⟩
    · rw [if_neg hc] at hs; cases hs
  · rintro ⟨r₀, hm, hc, rfl⟩
    exact ⟨r₀, hm, by rw [if_pos hc]⟩

/-- The HAVING helper column is never exposed: every delivered row has one column less than the
    row it came from (the columns of the HAVING-free field list), same key and period. -/
theorem having_strips_helper (rows : List QRow) (r : QRow) (h : r ∈ havingFilter rows) :
    ∃ r₀ ∈ rows, r.vals.length = r₀.vals.length - 1 ∧ r.key = r₀.key ∧ r.ts = r₀.ts := by
  obtain ⟨r₀, hm, _, rfl⟩ := (having_keeps_iff rows r).mp h
  exact ⟨r₀, hm, by simp, rfl, rfl⟩

/-- HAVING never invents rows or changes their order: the result is a sublist (by key/period). -/
theorem having_sublist (rows : List QRow) :
    ((havingFilter rows).map (fun r => (r.key, r.ts))).Sublist (rows.map (fun r => (r.key, r.ts))) := by
  unfold havingFilter
  induction rows with
  | nil => simp
  | cons r rs ih =>
    by_cases hc : r.vals.getLast? = some 1
    · simp only [List.filterMap_cons, hc, if_true, List.map_cons]
      exact List.Sublist.cons_cons _ ih
    · simp only [List.filterMap_cons, hc, if_false, List.map_cons]
      exact List.Sublist.cons _ ih

/-- WHERE is a pre-filter on the accepted raw rows of the spec: filtering the rows by the key
    predicate and then restricting to the window equals restricting and then filtering —
    the predicate sees nothing but the row's key. -/
theorem where_commutes_with_window (rows : List AccRow) (ok : Key → Bool) (lo hi : Int) :
    (rows.filter (fun r => ok r.key)).filter (fun r => lo < r.period ∧ r.period ≤ hi) =
      (rows.filter (fun r => lo < r.period ∧ r.period ≤ hi)).filter (fun r => ok r.key) := by
  simp only [List.filter_filter]
  congr 1
  funext r
  exact Bool.and_comm _ _

/-- A row excluded by WHERE contributes to no bucket: it is absent from the filtered rows. -/
theorem where_excludes (rows : List AccRow) (ok : Key → Bool) (r : AccRow) (h : ok r.key = false) :
    r ∉ rows.filter (fun r => ok r.key) := by
  simp [List.mem_filter, h]

/-- `dim IN (SELECT dim …)` has set semantics: only which values the subquery returned matters,
    not their order or multiplicity (`SubQuery.SetResult` + membership test). -/
theorem in_subquery_is_in_list (l₁ l₂ : List String) (hset : ∀ v, v ∈ l₁ ↔ v ∈ l₂) (v : String) :
    l₁.contains v = l₂.contains v := by
  rw [List.contains_eq_mem, List.contains_eq_mem, decide_eq_decide]
  exact hset v

/-- The distinct values are what is kept of the subquery's rows. -/
theorem in_subquery_distinct (l : List String) (v : String) : l.eraseDups.contains v = l.contains v :=
  in_subquery_is_in_list _ _ (fun _ => List.mem_eraseDups) v

/-- Known limit (recorded finding `empty-bucket-row`, D13): the helper column — like any selected
    expression with a constant operand — "has a value" on an empty bucket, so a HAVING such as
    `_points <= 0` yields rows for periods without data that the HAVING-free query does not
    return.  Witness on the model of the expression layer: -/
theorem having_helper_has_value_without_data :
    (Ex.bin .le (.agg .sum (.field "_point")) (.const 0)).val default
      (Ex.bin .le (.agg .sum (.field "_point")) (.const 0)).empty = some 1 := by
  decide +kernel

/-! Non-vacuity -/

def exRows : List QRow :=
  [{ ts := 10, key := [("d", "s:x")], vals := [5, 1] }, { ts := 20, key := [("d", "s:x")], vals := [7, 0] },
   { ts := 10, key := [("d", "s:y")], vals := [9, 1] }]
example : havingFilter exRows =
    [{ ts := 10, key := [("d", "s:x")], vals := [5] }, { ts := 10, key := [("d", "s:y")], vals := [9] }] := by
  decide +kernel

end Zeno.C08
