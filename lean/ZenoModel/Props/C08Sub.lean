/-
C08 (sub-queries) — `FROM (sub-query)` and `dim IN (sub-query)`.

`specOver` is the raw-point spec of C06/C07/C08 with the table replaced by an arbitrary
source window and the accepted raw rows replaced by arbitrary points; the materialised flat
rows of a sub-query are such points.  The `query` engine compares the real nested query
with `runOver` (the code path) and with `specOver` (the property) over the rows the real
sub-query returns standalone.
-/
import ZenoModel.Model.SubQuery
import ZenoModel.Lemmas.Time

namespace Zeno.C08Sub
open Zeno

/-- `planLocal` is `planOver` for a table source: the planner code is one function, only the
    source answering `GetResolution/GetAsOf/GetUntil` differs. -/
theorem planLocal_is_planOver (cfg : TableCfg) (now : Int) (q : Query) :
    planLocal cfg now q = planOver (tableSrc cfg now) now q := rfl

/-- the grouping step over a table is the grouping step over the table taken as a source -/
theorem groupRows_is_groupRowsOver (cfg : TableCfg) (now : Int) (q : Query) (pl : Plan)
    (inFields : List Field) (metas : List KeyMeta) (rows : List Row) :
    groupRows cfg now q pl inFields metas rows = groupRowsOver (tableSrc cfg now) q pl inFields metas rows := rfl

/-- The raw-point spec of a table query is `specOver` over the table's
    window and the table's accepted rows — a FROM-subquery is evaluated by the same spec as a
    table, with "point" read as "row of the materialised sub-query". -/
theorem specQuery_is_specOver (x : Ext) (cfg : TableCfg) (dup : Bool) (ps : List RawPoint) (q : Query)
    (metas : List KeyMeta) :
    specQuery x cfg dup ps q metas =
      specOver x (tableSrc cfg (acceptedRows cfg dup ps).2) (acceptedRows cfg dup ps).2
        (acceptedRows cfg dup ps).1 q metas := by
  unfold specQuery specOver
  -- rewrite the planner call first, so that `rfl` compares two equal bodies
  simp only [planLocal_is_planOver]
  rfl

/-- the outer WHERE is a pre-filter on the materialised rows: it sees nothing but the row's key -/
theorem from_subquery_where_is_prefilter (x : Ext) (s : SrcWin) (now : Int) (rows : List AccRow) (q : Query)
    (metas : List KeyMeta) :
    specOver x s now rows { q with hasWhere := true } metas =
      specOver x s now
        (rows.filter (fun r => ((metas.find? (fun m => m.key == r.key)).getD { key := r.key }).whereOk))
        { q with hasWhere := false } metas := rfl

/-- with named fields a group operator is planned whether or not there is a HAVING clause -/
theorem plan_ignores_having (s : SrcWin) (now : Int) (q : Query) (hg : q.hasSpecificFields = true) :
    planOver s now { q with hasHaving := true } = planOver s now { q with hasHaving := false } := by
  have hw1 : windowOver s now { q with hasHaving := true } = windowOver s now q := rfl
  have hw2 : windowOver s now { q with hasHaving := false } = windowOver s now q := rfl
  have hr1 : ∀ w, resolutionOver s { q with hasHaving := true } w = resolutionOver s q w := fun _ => rfl
  have hr2 : ∀ w, resolutionOver s { q with hasHaving := false } w = resolutionOver s q w := fun _ => rfl
  unfold planOver
  simp only [hw1, hw2, hr1, hr2]
  split
  · rfl
  · cases resolutionOver s q (windowOver s now q) with
    | error e => rfl
    | ok v => simp [hg]

/-- the outer HAVING is a post-filter on the finished rows of the same query without the filter
    (the helper column is the last selected expression in both) -/
theorem from_subquery_having_is_postfilter (x : Ext) (s : SrcWin) (now : Int) (rows : List AccRow) (q : Query)
    (metas : List KeyMeta) (hg : q.hasSpecificFields = true) :
    specOver x s now rows { q with hasHaving := true } metas =
      (specOver x s now rows { q with hasHaving := false } metas).map havingFilter := by
  unfold specOver
  rw [plan_ignores_having s now q hg]
  cases planOver s now { q with hasHaving := false } with
  | error e => rfl
  | ok pl => rfl

/-- a materialised row that the window keeps lands in exactly one out period, the one whose
    half-open interval (T − P, T] contains its timestamp -/
theorem from_subquery_bucket_contains (hi t P : Int) (hP : 0 < P) :
    let T := hi - ((hi - t) / P) * P
    T - P < t ∧ t ≤ T :=
  (outPeriod_spec hP).2

/-- `dim IN (sub-query)`: membership only depends on the set of values the sub-query returned
    (missing values included), not on their order or multiplicity. -/
theorem in_subquery_set_semantics (l₁ l₂ : List (Option String)) (hset : ∀ v, v ∈ l₁ ↔ v ∈ l₂) (v : Option String) :
    inList l₁ v = inList l₂ v := by
  unfold inList
  rw [List.contains_eq_mem, List.contains_eq_mem, decide_eq_decide]
  exact hset v

/-- The distinct values of the sub-query decide membership. -/
theorem in_subquery_distinct (l : List (Option String)) (v : Option String) :
    inList l.eraseDups v = inList l v :=
  in_subquery_set_semantics _ _ (fun _ => List.mem_eraseDups) v

/-- RECORDED DEVIATION (finding `C08-insub-null-member`; `subQueryValues` is /repo before 4ea8e1b, which
    makes `planSubQueries` skip such rows): a sub-query row whose key lacks the
    dimension contributes a missing value to the list, and a missing value is a member for `IN`:
    an outer row that lacks the dimension is kept. -/
theorem in_subquery_missing_is_member (dim : String) (rows : List QRow) (r : QRow) (hr : r ∈ rows)
    (hmiss : r.key.find? (fun kv => kv.1 == dim) = none) :
    inList (subQueryValues dim rows) none = true := by
  unfold inList subQueryValues
  simp only [List.contains_eq_mem, List.mem_map, decide_eq_true_eq]
  exact ⟨r, hr, by simp [hmiss]⟩

/-- No literal list `IN ('v1', …)` can have a missing value as a member: over the list of the
    values that are there, a row lacking the dimension is never kept. -/
theorem in_literal_list_excludes_missing (vs : List (Option String)) :
    inList (vs.filter Option.isSome) none = false := by
  unfold inList
  simp [List.contains_eq_mem, List.mem_filter]

/-! Non-vacuity: two materialised rows of a sub-query `SELECT f0, f1 … GROUP BY d, period(2)`,
    outer `SELECT f0, f0 + f1 AS o1 FROM (…) GROUP BY period(4) HAVING f0 > 3`. -/

def exSrc : SrcWin := { res := 2, asOf := 0, hi := 8 }
def exRows : List AccRow :=
  [{ key := [("d", "s:x")], period := 6, pt := { vals := [("f0", 1), ("f1", 5)] } },
   { key := [("d", "s:x")], period := 8, pt := { vals := [("f0", 3), ("f1", 1)] } },
   { key := [("d", "s:y")], period := 8, pt := { vals := [("f0", 2), ("f1", 2)] } }]
def exF0 : Ex := .agg .sum (.field "f0")
def exF1 : Ex := .agg .sum (.field "f1")
def exQ : Query :=
  { outFields := [⟨"f0", exF0⟩, ⟨"o1", .bin .add exF0 exF1⟩, ⟨"_having", .bin .gt exF0 (.const 3)⟩],
    groupByAll := false, resolution := 4, hasSpecificFields := true, hasHaving := true }

example : (match specOver default exSrc 8 exRows exQ [] with
    | .ok r => r == [{ ts := 8, key := [("d", "s:x")], vals := [4, 10] }]
    | .error _ => false) = true := by decide +kernel

example : (match runOver default exSrc 8 exRows exQ [] with
    | .ok r => r == [{ ts := 8, key := [("d", "s:x")], vals := [4, 10] }]
    | .error _ => false) = true := by decide +kernel

/-- HAVING over a column the outer query does not select: the property (specOver) keeps the bucket
    of `x` (SUM(f1) = 6 > 3). -/
def exQ2 : Query :=
  { outFields := [⟨"f0", exF0⟩, ⟨"_having", .bin .gt exF1 (.const 3)⟩],
    groupByAll := false, resolution := 4, hasSpecificFields := true, hasHaving := true }

example : (match specOver default exSrc 8 exRows exQ2 [] with
    | .ok r => r == [{ ts := 8, key := [("d", "s:x")], vals := [4] }]
    | .error _ => false) = true := by decide +kernel

/-- On `exQ2` the code as found returns nothing (finding C08-fromsub-having-unselected: the helper has no
    input column), the repaired code path agrees with the property. -/
example : (match runOver default exSrc 8 exRows exQ2 [] false with
    | .ok r => r == []
    | .error _ => false) = true := by decide +kernel

example : (match runOver default exSrc 8 exRows exQ2 [] true with
    | .ok r => r == [{ ts := 8, key := [("d", "s:x")], vals := [4] }]
    | .error _ => false) = true := by decide +kernel

end Zeno.C08Sub
