/-
C12 — replication is exactly-once per partition across restarts and reconnects.

Model (Model/Repl.lean): the protocol between passthrough leaders and followers at message
level — WALs with increasing offsets, per (table, follower) follow-spec offsets with
`start = max(table offset, EarliestOffset)` and the WAL reader rewound to the minimum spec
offset on every join, FIFO links that lose what is in flight when cut, per table and source the
follower's dedup offset, the table pipeline, the row store as the list of (source, offset)
applications it reflects in memory / on disk / in a directory snapshot — with the faults
{stopFollower, startFollower (state = directory), restoreSnapshot (crash image), stopLeader /
startLeader (specs lost, WAL kept), cutLink, connect (reconnect with the current offsets)}.
`step : State → Event → Option State` is also what the harness replays observed event traces
through (trace acceptance, engine `cluster`).

Invariant (Lemmas/Repl.lean `Inv`, preserved by every event: Lemmas/ReplSteps.lean).  For every
follower f, table t, leader l: (`exMem`/`exDisk`/`exSnap`) what the table reflects is exactly
`{e ∈ WAL_l : e.off ≤ offset ∧ routed(e, t, f)}`, each once; (`pendCover`) what lies between
the row store's offset and the dedup offset is in the table's pipeline; (`linkCover` + `gap`)
what the leader has considered for (t, f) and the table has not yet seen is on the link or
being handed over — nothing needed is skipped; (`Exact.nodup`) nothing is applied twice.

Theorems.
* `repl_inv_step`: every event, including every fault, preserves the invariant — for
  `Good cx`: (`makeFollows` after C12-fix-01, or followers with at most one table) and
  `openRowStore` recovering the per-source MAXIMUM of offset file and filestore header.
  `repl_inv_step_fixed` / `repl_inv_step_partial` are the two instances; `repl_inv_run` lifts
  it to traces, `repl_inv_reachable` to those from the initial state.
* `repl_quiescent_exact`: all nodes up, links up and drained, pipelines empty, leaders at the
  end of their WAL ⇒ every table of every follower reflects exactly the accepted entries
  routed to its partition (and passing the table's WHERE), each once:
  a permutation of `routedOffs`.
* `redundant_followers_equal`: followers of the same partition then reflect the same entries.
* `repl_never_twice`, `repl_nothing_needed_skipped`: the two halves of "exactly once" in every
  reachable state, not only at quiescence.
* `recovered_offset_covers_data`, `recovery_by_max_never_reapplies`: a table persists its offsets
  in two records (filestore header, `offset` file; either may be the staler one); the per-source
  maximum that `openRowStore` recovers is at or above every entry reflected in the recovered data,
  so a restarted table (clean stop or crash image, whatever was flushed when) neither asks for nor
  takes a persisted entry again.  `offset_file_wins_reapplies`: with "an existing offset file
  wins" the witness trace is accepted and table 1 reflects entry 2 twice;
  `max_recovery_keeps_once`: on HEAD the same schedule keeps it once, and a follower that asks
  for less than it recovered is rejected.
* `as_found_loses_entry`: for the code AS FOUND the full-strength statement is false: a
  follower with two tables, one flushed, restarted from a crash image taken before the other's
  first flush, announces the flushed table's offset as EarliestOffset; the leader starts the
  unflushed table there and the entries it had only in memory are never sent again.  The
  witness trace is accepted by the model, ends quiescent, and table 1 reflects nothing while
  one entry is routed to it.  (Replayed on the real cluster: corpus/C12/01-*.json.)
  `fixed_recovers_entry`: the same schedule under the fixed `makeFollows` re-sends the entry.
-/
import ZenoModel.Lemmas.ReplSteps

namespace Zeno.Repl

/-- all nodes up, links up and drained, nothing being handed over, pipelines empty, WAL readers
    at the end -/
structure Quiescent (cx : Ctx) (s : State) (ls : List LId) (fs : List FId) : Prop where
  lup : ∀ l ∈ ls, s.lup l = true
  fup : ∀ f ∈ fs, s.fup f = true
  linkUp : ∀ l ∈ ls, ∀ f ∈ fs, s.linkUp l f = true
  drained : ∀ l ∈ ls, ∀ f ∈ fs, s.queue l f = []
  idle : ∀ l ∈ ls, ∀ f ∈ fs, s.inflight f l = none
  applied : ∀ l ∈ ls, ∀ f ∈ fs, ∀ t ∈ cx.tables, s.pending f t l = []
  caughtUp : ∀ l ∈ ls, s.cursor l = top (s.wal l)

/-- decidable version for the examples -/
def quiescentB (cx : Ctx) (s : State) (ls : List LId) (fs : List FId) : Bool :=
  ls.all (fun l => s.lup l && s.cursor l == top (s.wal l) &&
    fs.all (fun f => s.fup f && s.linkUp l f && (s.queue l f).isEmpty && (s.inflight f l).isNone &&
      cx.tables.all (fun t => (s.pending f t l).isEmpty)))

end Zeno.Repl

namespace Zeno.C12
open Zeno.Repl

/-- every event — including every fault — preserves the invariant -/
theorem repl_inv_step {cx : Ctx} (hg : Good cx) {s s' : State} (hi : Inv cx s) (ev : Event)
    (h : step cx s ev = some s') : Inv cx s' := by
  cases ev with
  | insert l e => exact inv_insert hi l e h
  | connect l f => exact inv_connect hi l f h
  | join l f claim => exact inv_join hi l f claim h
  | route l o => exact inv_route hi l o h
  | msg f l o => exact inv_msg hi f l o h
  | recv f t l o fwd => exact inv_recv hi f t l o fwd h
  | msgdone f l o => exact inv_msgdone hi f l o h
  | apply f t l o k => exact inv_apply hi f t l o k h
  | persist f t data =>
    cases data with
    | true => exact inv_persist_data hi f t h
    | false => exact inv_persist_offsets hi f t h
  | snapshot f => exact inv_snapshot hi f h
  | stopFollower f => exact inv_stopFollower hi f h
  | restoreSnapshot f => exact inv_restoreSnapshot hi f h
  | startFollower f => exact inv_startFollower hg hi f h
  | cutLink l f => exact inv_cutLink hi l f h
  | stopLeader l => exact inv_stopLeader hi l h
  | startLeader l => exact inv_startLeader hi l h

/-- the code after C12-fix-01, any number of tables -/
theorem repl_inv_step_fixed {cx : Ctx} (hf : cx.fixedEarliest = true) (hr : cx.recoverMax = true)
    {s s' : State} (hi : Inv cx s) (ev : Event) (h : step cx s ev = some s') : Inv cx s' :=
  repl_inv_step ⟨Or.inl hf, hr⟩ hi ev h

/-- the code as found, followers with at most one table -/
theorem repl_inv_step_partial {cx : Ctx} (h1 : cx.tables.length ≤ 1) (hr : cx.recoverMax = true)
    {s s' : State} (hi : Inv cx s) (ev : Event) (h : step cx s ev = some s') : Inv cx s' :=
  repl_inv_step ⟨Or.inr h1, hr⟩ hi ev h

/-- every state reached by an accepted trace satisfies the invariant -/
theorem repl_inv_run {cx : Ctx} (hg : Good cx) (evs : List Event) {s s' : State} (hi : Inv cx s)
    (h : run cx s evs = some s') : Inv cx s' := by
  induction evs generalizing s with
  | nil => simp only [run, Option.some.injEq] at h; subst h; exact hi
  | cons ev evs ih =>
    simp only [run] at h
    split at h
    · rename_i s1 hs1
      exact ih (repl_inv_step hg hi ev hs1) h
    · cases h

theorem repl_inv_reachable {cx : Ctx} (hg : Good cx) (evs : List Event) {s : State}
    (h : run cx State.init evs = some s) : Inv cx s :=
  repl_inv_run hg evs (inv_init cx) h

/-- nothing with an offset at or below the table's offset is applied again: the applications a
    table reflects never contain an entry twice (in every reachable state) -/
theorem repl_never_twice {cx : Ctx} {s : State} (hi : Inv cx s) (f : FId) (t : TId) (l : LId) :
    (s.memApps f t l).Nodup ∧ (s.diskApps f t l).Nodup ∧
      ∀ o ∈ s.memApps f t l, o ≤ s.memOff f t l :=
  ⟨(hi.exMem f t l).nodup, (hi.exDisk f t l).nodup, fun o ho => by
    obtain ⟨_, _, _, h, _⟩ := ((hi.exMem f t l).mem o).mp ho
    exact h⟩

/-- the leader never advances past an entry the follower still needs: whatever it has considered
    for (t, f) and the table has not seen yet is on the link or being handed over -/
theorem repl_nothing_needed_skipped {cx : Ctx} {s : State} (hi : Inv cx s) (l : LId) (f : FId) (t : TId)
    (sp : Nat) (hlk : s.linkUp l f = true) (hs : s.spec l t f = some sp) (e : Entry) (he : e ∈ s.wal l)
    (hw : wants cx t (cx.part f) e.pt = true) (hp : s.prior f t l < e.off) (hd : e.off ≤ s.done l t f) :
    e.off ∈ s.queue l f ∨ ∃ rem, s.inflight f l = some (e.off, rem) ∧ t ∈ rem := by
  by_cases hle : e.off ≤ sp
  · exact hi.linkCover l f t sp hlk hs e he hw hp hle
  · exact absurd (wants_pid hw) (hi.gap l t f sp hs e he (by omega) hd)

/-- at quiescence a table reflects exactly the entries routed to it -/
theorem quiescent_mem {cx : Ctx} {s : State} (hi : Inv cx s) {ls : List LId} {fs : List FId}
    (hq : Quiescent cx s ls fs) {l : LId} (hl : l ∈ ls) {f : FId} (hf : f ∈ fs) {t : TId}
    (ht : t ∈ cx.tables) (o : Nat) :
    o ∈ s.memApps f t l ↔ ∃ e ∈ s.wal l, e.off = o ∧ wants cx t (cx.part f) e.pt = true := by
  rw [(hi.exMem f t l).mem o]
  constructor
  · rintro ⟨e, he, h1, _, h3⟩
    exact ⟨e, he, h1, h3⟩
  · rintro ⟨e, he, h1, h3⟩
    refine ⟨e, he, h1, ?_, h3⟩
    subst h1
    have hfup := hq.fup f hf
    have hlk := hq.linkUp l hl f hf
    obtain ⟨sp, hsp⟩ := hi.specLink l f t hlk ht
    -- the leader is at the end of its WAL: it has considered e
    have hdone : e.off ≤ s.done l t f := by
      have h1 := hi.cursorLeDone l t f sp hsp
      have h2 := hq.caughtUp l hl
      have h3 := le_top he
      omega
    -- so e is at or below the table's dedup offset …
    have hprior : e.off ≤ s.prior f t l := by
      apply Nat.le_of_not_lt
      intro hp
      rcases repl_nothing_needed_skipped hi l f t sp hlk hsp e he h3 hp hdone with hq' | ⟨rem, hr, _⟩
      · rw [hq.drained l hl f hf] at hq'
        cases hq'
      · rw [hq.idle l hl f hf] at hr
        cases hr
    -- … and has left the pipeline
    apply Nat.le_of_not_lt
    intro hm
    have := hi.pendCover f t l hfup e he h3 hm hprior
    rw [hq.applied l hl f hf t ht] at this
    cases this

theorem routedOffs_mem (cx : Ctx) (W : List Entry) (t : TId) (f : FId) (o : Nat) :
    o ∈ routedOffs cx W t f ↔ ∃ e ∈ W, e.off = o ∧ wants cx t (cx.part f) e.pt = true := by
  simp only [routedOffs, offsOf, List.mem_map, List.mem_filter]
  constructor
  · rintro ⟨e, ⟨he, hw⟩, rfl⟩
    exact ⟨e, he, rfl, hw⟩
  · rintro ⟨e, he, rfl, hw⟩
    exact ⟨e, ⟨he, hw⟩, rfl⟩

theorem routedOffs_nodup (cx : Ctx) {W : List Entry} (hs : W.Pairwise (fun a b => a.off < b.off))
    (t : TId) (f : FId) : (routedOffs cx W t f).Nodup := by
  unfold routedOffs offsOf
  have h1 : (W.filter (fun e => wants cx t (cx.part f) e.pt)).Pairwise (fun a b => a.off < b.off) :=
    hs.filter _
  have h2 : ((W.filter (fun e => wants cx t (cx.part f) e.pt)).map (·.off)).Pairwise (· < ·) := by
    rw [List.pairwise_map]
    exact h1
  exact h2.imp (fun h => Nat.ne_of_lt h)

/-- **exactly-once at quiescence**: when all nodes are up, links restored and queues drained,
    every table on every follower of partition p reflects exactly the accepted entries routed to
    p (and passing the table's WHERE), each once -/
theorem repl_quiescent_exact {cx : Ctx} {s : State} (hi : Inv cx s) {ls : List LId} {fs : List FId}
    (hq : Quiescent cx s ls fs) {l : LId} (hl : l ∈ ls) {f : FId} (hf : f ∈ fs) {t : TId}
    (ht : t ∈ cx.tables) :
    (s.memApps f t l).Perm (routedOffs cx (s.wal l) t f) := by
  rw [List.perm_ext_iff_of_nodup (hi.exMem f t l).nodup (routedOffs_nodup cx (hi.walSorted l) t f)]
  intro o
  rw [quiescent_mem hi hq hl hf ht o, routedOffs_mem]

/-- the same for every trace from the initial state -/
theorem repl_quiescent_exact_run {cx : Ctx} (hg : Good cx) (evs : List Event) {s : State}
    (h : run cx State.init evs = some s) {ls : List LId} {fs : List FId} (hq : Quiescent cx s ls fs)
    {l : LId} (hl : l ∈ ls) {f : FId} (hf : f ∈ fs) {t : TId} (ht : t ∈ cx.tables) :
    (s.memApps f t l).Perm (routedOffs cx (s.wal l) t f) :=
  repl_quiescent_exact (repl_inv_reachable hg evs h) hq hl hf ht

/-- redundant followers of one partition converge to identical contents -/
theorem redundant_followers_equal {cx : Ctx} {s : State} (hi : Inv cx s) {ls : List LId} {fs : List FId}
    (hq : Quiescent cx s ls fs) {l : LId} (hl : l ∈ ls) {f1 f2 : FId} (h1 : f1 ∈ fs) (h2 : f2 ∈ fs)
    (hp : cx.part f1 = cx.part f2) {t : TId} (ht : t ∈ cx.tables) :
    (s.memApps f1 t l).Perm (s.memApps f2 t l) := by
  have a := repl_quiescent_exact hi hq hl h1 ht
  have b := repl_quiescent_exact hi hq hl h2 ht
  have : routedOffs cx (s.wal l) t f1 = routedOffs cx (s.wal l) t f2 := by
    simp only [routedOffs, hp]
  rw [this] at a
  exact a.trans b.symm

/-! ## the code as found: the full-strength statement is false -/

/-- two tables, one partition, every entry wanted by both tables -/
def cxFound : Ctx :=
  { tables := [0, 1], part := fun _ => 0, pid := fun _ _ => 0, whereOk := fun _ _ => true, fixedEarliest := false }

def cxFixed : Ctx := { cxFound with fixedEarliest := true }

/-- one entry replicated to both tables; table 0 flushed; crash image; restart from it -/
def crashTrace : List Event :=
  [.startFollower 10, .connect 1 10, .join 1 10 (fun _ => 0),
   .insert 1 ⟨1, 0⟩, .route 1 1,
   .msg 10 1 1, .recv 10 0 1 1 true, .recv 10 1 1 1 true, .msgdone 10 1 1,
   .msg 10 1 1, .recv 10 0 1 1 false, .recv 10 1 1 1 false, .msgdone 10 1 1,
   .apply 10 0 1 1 true, .apply 10 1 1 1 true,
   .persist 10 0 true, .snapshot 10,
   .cutLink 1 10, .stopFollower 10, .restoreSnapshot 10, .startFollower 10,
   .connect 1 10, .join 1 10 (fun t => if t = 0 then 1 else 0)]

/-- what table `t` of follower 10 reflects of leader 1 after a trace, and whether the end state
    is quiescent -/
def outcome (cx : Ctx) (evs : List Event) (t : TId) : Option (List Nat × Bool) :=
  (run cx State.init evs).map (fun s => (s.memApps 10 t 1, quiescentB cx s [1] [10]))

/-- AS FOUND: the trace is accepted, the cluster is quiescent, the entry routed to table 1 is
    gone for good (table 0 still has it) -/
theorem as_found_loses_entry :
    outcome cxFound crashTrace 1 = some ([], true) ∧ outcome cxFound crashTrace 0 = some ([1], true) ∧
    (∀ s, run cxFound State.init crashTrace = some s → routedOffs cxFound (s.wal 1) 1 10 = [1]) := by
  refine ⟨by decide, by decide, ?_⟩
  intro s hs
  have : (run cxFound State.init crashTrace).map (fun s => routedOffs cxFound (s.wal 1) 1 10) = some [1] := by
    decide
  rw [hs] at this
  simpa using this

/-- after the fix the leader rewinds to the beginning for the unflushed table and the entry is
    delivered again -/
theorem fixed_recovers_entry :
    outcome cxFixed (crashTrace ++
      [.route 1 1, .msg 10 1 1, .recv 10 0 1 1 false, .recv 10 1 1 1 true, .msgdone 10 1 1,
       .apply 10 1 1 1 true]) 1 = some ([1], true) := by decide

/-! ## persisted offsets across restarts

A table persists its offsets in two records: the header of the newest filestore (written with
the data) and the `offset` file (rewritten only when a flush finds the memstore empty, i.e.
after skipped entries).  Either may be the staler one. -/

/-- the recovered offset (per-source maximum of both records) is at or above every offset whose
    entry is reflected in the recovered data, and the recovered data is exactly what the table
    wants at or below it, each once -/
theorem recovered_offset_covers_data {cx : Ctx} {s : State} (hi : Inv cx s) (f : FId) (t : TId) (l : LId) :
    (∀ o ∈ s.diskApps f t l, o ≤ max (s.offFile f t l) (s.diskOff f t l)) ∧
    (s.diskApps f t l).Nodup ∧
    (∀ e ∈ s.wal l, wants cx t (cx.part f) e.pt = true →
      e.off ≤ max (s.offFile f t l) (s.diskOff f t l) → e.off ∈ s.diskApps f t l) := by
  have hx := hi.recExact f t l
  refine ⟨fun o ho => ?_, hx.nodup, fun e he hw hle => ?_⟩
  · obtain ⟨_, _, _, h, _⟩ := (hx.mem o).mp ho
    exact h
  · exact (hx.mem e.off).mpr ⟨e, he, rfl, hle, hw⟩

/-- recovery by per-source maximum never re-applies a persisted entry: after a (re)start from
    the directory — whatever was flushed when, crash image or clean stop — every entry the
    recovered data reflects is at or below the dedup offset the table starts with (so
    `doFollowLeaders` drops it should it be sent again), and the leader is asked for nothing at or
    below it -/
theorem recovery_by_max_never_reapplies {cx : Ctx} (hg : Good cx) {s s' : State} (hi : Inv cx s)
    (f : FId) (h : step cx s (.startFollower f) = some s') (t : TId) (l : LId) :
    s'.memApps f t l = s.diskApps f t l ∧
    (∀ o ∈ s'.memApps f t l, o ≤ s'.prior f t l) ∧
    s'.startOff f t l = s'.prior f t l ∧
    (s'.memApps f t l).Nodup := by
  simp only [step] at h
  split at h
  · simp only [Option.some.injEq] at h
    subst h
    refine ⟨by simp, ?_, by simp, by simpa using (hi.exDisk f t l).nodup⟩
    intro o ho
    simp only [if_true] at ho ⊢
    rw [recOff_eq hg]
    exact (recovered_offset_covers_data hi f t l).1 o ho
  · cases h

/-- table 0 keeps every entry, table 1 skips point 0 (a WHERE on a dim) -/
def cxSkip : Ctx :=
  { tables := [0, 1], part := fun _ => 0, pid := fun _ _ => 0,
    whereOk := fun t pt => !(t == 1 && pt == 0), fixedEarliest := true }

/-- the same with "an existing offset file wins, the filestore header is only a fallback" -/
def cxWins : Ctx := { cxSkip with recoverMax := false }

/-- entry 1 is skipped by table 1 while its memstore is empty and an idle flush writes the
    offset file; entry 2 is stored and flushed to a filestore; the follower is stopped cleanly -/
def staleOffsetFile : List Event :=
  [.startFollower 10, .connect 1 10, .join 1 10 (fun _ => 0),
   .insert 1 ⟨1, 0⟩, .route 1 1,
   .msg 10 1 1, .recv 10 0 1 1 true, .recv 10 1 1 1 true, .msgdone 10 1 1,
   .apply 10 0 1 1 true, .apply 10 1 1 1 false,
   .persist 10 1 false,
   .insert 1 ⟨2, 1⟩, .route 1 2,
   .msg 10 1 2, .recv 10 0 1 2 true, .recv 10 1 1 2 true, .msgdone 10 1 2,
   .msg 10 1 2, .recv 10 0 1 2 false, .recv 10 1 1 2 false, .msgdone 10 1 2,
   .apply 10 0 1 2 true, .apply 10 1 1 2 true,
   .persist 10 0 true, .persist 10 1 true,
   .cutLink 1 10, .stopFollower 10, .startFollower 10, .connect 1 10]

/-- "OFFSET FILE WINS": the restarted table 1 resumes from the stale offset 1, asks the leader
    for entry 2 again — which its filestore already holds — and applies it a second time -/
theorem offset_file_wins_reapplies :
    outcome cxWins (staleOffsetFile ++
      [.join 1 10 (fun t => if t = 0 then 2 else 1), .route 1 2,
       .msg 10 1 2, .recv 10 0 1 2 false, .recv 10 1 1 2 true, .msgdone 10 1 2,
       .apply 10 1 1 2 true]) 1 = some ([2, 2], true) := by decide

/-- per-source maximum (HEAD): the table resumes from 2, nothing is sent again, and the model
    refuses a follower that asks for less than it recovered or takes entry 2 once more -/
theorem max_recovery_keeps_once :
    outcome cxSkip (staleOffsetFile ++ [.join 1 10 (fun _ => 2)]) 1 = some ([2], true) ∧
    (run cxSkip State.init (staleOffsetFile ++ [.join 1 10 (fun t => if t = 0 then 2 else 1)])).isNone = true ∧
    (run cxSkip State.init (staleOffsetFile ++ [.join 1 10 (fun _ => 2), .route 1 2])).isNone = true := by
  refine ⟨by decide, by decide, by decide⟩

/-! ## non-vacuity -/

/-- the hypothesis of the general theorems is satisfiable -/
example : Good cxFixed := ⟨Or.inl rfl, rfl⟩
example : ¬ Good cxFound := by
  intro h
  rcases h.1 with h | h
  · cases h
  · simp [cxFound] at h

/-- a cut link loses what is in flight; the reconnect resumes from the follower's offsets -/
example :
    outcome cxFixed
      [.startFollower 10, .connect 1 10, .join 1 10 (fun _ => 0), .insert 1 ⟨1, 0⟩, .insert 1 ⟨2, 1⟩,
       .route 1 1, .route 1 2, .msg 10 1 1, .recv 10 0 1 1 true, .recv 10 1 1 1 true, .msgdone 10 1 1,
       .cutLink 1 10, .apply 10 0 1 1 true, .apply 10 1 1 1 true,
       .connect 1 10, .join 1 10 (fun _ => 1), .route 1 2,
       .msg 10 1 2, .recv 10 0 1 2 true, .recv 10 1 1 2 true, .msgdone 10 1 2,
       .msg 10 1 2, .recv 10 0 1 2 false, .recv 10 1 1 2 false, .msgdone 10 1 2,
       .apply 10 0 1 2 true, .apply 10 1 1 2 true] 0 = some ([1, 2], true) := by decide

/-- the model refuses what the code cannot do: delivering an entry that was never routed -/
example : (run cxFixed State.init [.startFollower 10, .connect 1 10, .join 1 10 (fun _ => 0),
    .insert 1 ⟨1, 0⟩, .msg 10 1 1]).isNone = true := by decide

/-- … or applying an entry with the wrong verdict -/
example : (run cxFixed State.init [.startFollower 10, .connect 1 10, .join 1 10 (fun _ => 0),
    .insert 1 ⟨1, 0⟩, .route 1 1, .msg 10 1 1, .recv 10 0 1 1 true, .apply 10 0 1 1 false]).isNone = true := by
  decide

end Zeno.C12
