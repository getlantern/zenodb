/-
C19, stateful part — credentials that the server hands out in one response and accepts
in a later one (`Model/AuthSession.lean`).

Theorems are over request SEQUENCES of any length, any interleaving of data requests and
OAuth callbacks, any answers of the identity provider (in org / not in org / HTTP error /
garbage / unreachable, changing from call to call), any clock, and every cookie-issuing
policy that is SAFE (`Policy.safe`: no sealing call is reached without a check, after
"not in org", or after an error):

* every served data request is backed by the static token or by a cookie the server
  sealed after an "in org" answer for its principal, unexpired or re-verified now;
* a response that is not itself an authorised one (served / logged in) neither issues a
  cookie nor changes the state (`refusal_issues_nothing`);
* every cookie in circulation comes from the initial state or from an authorised response
  given on an "in org" answer (`replayed_cookie_has_authorised_origin`).

`all_cookie_writes_guarded` ties the policy to the source: the regenerated
`Facts.cookieWriteSites` (every call that writes the cookie, with the identity-provider
answers under which it is reached) must derive exactly `Policy.code`, which is safe.
The witnesses replay, on unsafe policies, the sequences that the `auth` engine finds
against such code (the seeded refresh-on-`err == nil`, the pre-D17 callback).
-/
import ZenoModel.Lemmas.AuthSession
import ZenoModel.Generated.Facts
import ZenoModel.Props.C19

namespace Zeno.AuthSpec
open Zeno

/-- every cookie sealed so far was sealed on an "in org" answer -/
def AllVerified (s : SessState) : Prop := ∀ c ∈ s, c.verified = true

def staticOk (o : WebOpts) (r : SReq) : Prop := o.password ≠ "" ∧ r.header = o.password

/-- the request presents a cookie the server sealed after verifying its principal, and that
    cookie is unexpired or its principal is confirmed in the organisation right now -/
def sessionBacked (s : SessState) (r : SReq) : Prop :=
  ∃ i c, r.cookie = .issued i ∧ s[i]? = some c ∧ c.verified = true ∧
    (r.now < c.expiry ∨ r.orgAns = .inOrg)

/-- the abstract single-request cookie of `Model/Auth.lean` that a sequence request amounts to -/
def abstractCookie (s : SessState) (r : SReq) : Option Cookie :=
  match r.cookie with
  | .none => none
  | .forged => some ⟨false, 0, false⟩
  | .issued i =>
    match s[i]? with
    | none => some ⟨false, 0, false⟩
    | some c => some ⟨true, c.expiry, r.orgAns == .inOrg⟩

def decisionOf : Outcome → Option WebDecision
  | .served => some .allow | .deny => some .deny | .redirect => some .redirect | _ => none

def guardOfSite (s : Facts.CookieWriteSite) : Guard := ⟨s.noCheck, s.onInOrg, s.onNotInOrg, s.onError⟩

/-- The policy the source implements, read off the regenerated call sites: per place, the
    union of the guards of its (non-helper) cookie writes. -/
def policyOfFacts (sites : List Facts.CookieWriteSite) : Policy :=
  let g := fun (fn : String) =>
    ((sites.filter (fun s => !s.inHelper && s.fn == fn)).map guardOfSite).foldl Guard.or Guard.never
  ⟨g "authenticate", g "oauthCode"⟩

def oauthOpts : WebOpts := ⟨"id", "secret", ""⟩
def dataReq (path : String) (c : CookieCred) (now : Int) (a : OrgAnswer) : SReq :=
  ⟨.data path, "", c, now, false, .unreachable, a⟩
def callbackReq (now : Int) (t : TokenAnswer) (a : OrgAnswer) : SReq :=
  ⟨.callback, "", .none, now, true, t, a⟩

end Zeno.AuthSpec

namespace Zeno.C19
open Zeno Zeno.AuthSpec

/-- On a data route the sequence model gives the answer of the single-request model
    (`webServe`) for the abstract cookie the request amounts to, whatever the issuing policy. -/
theorem session_step_agrees_with_request_model (pol : Policy) (o : WebOpts) (s : SessState)
    (p : String) (r : SReq) (b : Bool) (hp : webRouteGuarded p = some b) :
    webServe p o ⟨r.header, abstractCookie s r⟩ r.now = decisionOf (stepData pol o s p r).2.outcome := by
  unfold webServe webServeB stepData webAuthenticateB oauthSet abstractCookie
  rw [hp]
  cases b
  · rfl
  cases (o.oauthClientID == "" || o.oauthClientSecret == "")
  · cases (o.password != "" && r.header != "")
    · cases r.cookie with
      | none => rfl
      | forged => rfl
      | issued i =>
        dsimp only
        cases s[i]? with
        | none => rfl
        | some c =>
          by_cases hf : r.now < c.expiry
          · simp [hf, sessionFresh, mkResp, decisionOf]
          · cases pol.recheck.fires r.orgAns <;> cases r.orgAns <;> simp [hf, sessionFresh, decisionOf]
    · cases (r.header == o.password) <;> rfl
  · rfl

/-- The state only ever grows by the cookie the response sets (any policy). -/
theorem state_grows_by_set_cookie (pol : Policy) (o : WebOpts) (s : SessState) (r : SReq) :
    (sessionStep pol o s r).1 = s ++ (sessionStep pol o s r).2.setCookie.toList := by
  unfold sessionStep
  cases r.target with
  | data p => exact (stepData_effect pol o s p r).grows
  | callback => exact (stepCallback_effect pol s r).grows

private theorem mem_step_state {pol : Policy} {o : WebOpts} {s : SessState} {r : SReq} {c : Session} :
    c ∈ (sessionStep pol o s r).1 ↔ c ∈ s ∨ (sessionStep pol o s r).2.setCookie = some c := by
  rw [state_grows_by_set_cookie, List.mem_append, Option.mem_toList]

/-- Under a safe policy a response that sets a cookie was given on an "in org" answer of the
    identity provider, is itself an authorised response, and the cookie is marked verified. -/
theorem issue_requires_inorg_answer (pol : Policy) (hs : pol.safe = true) (o : WebOpts)
    (s : SessState) (r : SReq) (c : Session)
    (h : (sessionStep pol o s r).2.setCookie = some c) :
    r.orgAns = .inOrg ∧ c.verified = true ∧ (sessionStep pol o s r).2.outcome.authorised = true := by
  simp only [Policy.safe, Bool.and_eq_true] at hs
  unfold sessionStep at h ⊢
  cases ht : r.target with
  | data p =>
    simp only [ht] at h ⊢
    obtain ⟨hf, hv, hout⟩ := stepData_setCookie h
    have ha := safe_guard_fires_only_in_org _ hs.1 _ hf
    simp [ha, hv, hout, Outcome.authorised]
  | callback =>
    simp only [ht] at h ⊢
    obtain ⟨hf, hv, hout⟩ := stepCallback_setCookie h
    have ha := safe_guard_fires_only_in_org _ hs.2 _ hf
    simp [ha, hv, hout, Outcome.authorised]

/-- No refusal (deny, redirect, "not in org", any error path) issues or extends a credential:
    the response sets no cookie and the state is unchanged. -/
theorem refusal_issues_nothing (pol : Policy) (hs : pol.safe = true) (o : WebOpts)
    (s : SessState) (r : SReq) (h : (sessionStep pol o s r).2.outcome.authorised = false) :
    (sessionStep pol o s r).2.setCookie = none ∧ (sessionStep pol o s r).1 = s := by
  have hnone : (sessionStep pol o s r).2.setCookie = none := by
    cases hc : (sessionStep pol o s r).2.setCookie with
    | none => rfl
    | some c =>
      have := (issue_requires_inorg_answer pol hs o s r c hc).2.2
      rw [h] at this
      cases this
  refine ⟨hnone, ?_⟩
  rw [state_grows_by_set_cookie, hnone]
  simp

/-- Invariant over sequences: under a safe policy every cookie ever sealed is a verified one. -/
theorem issued_sessions_verified (pol : Policy) (hs : pol.safe = true) (o : WebOpts)
    (rs : List SReq) : ∀ s, AllVerified s → AllVerified (sessionRun pol o s rs) := by
  induction rs with
  | nil => intro s h; exact h
  | cons r rs ih =>
    intro s h
    simp only [sessionRun]
    apply ih
    intro c hc
    rcases mem_step_state.1 hc with hc | hc
    · exact h c hc
    · exact (issue_requires_inorg_answer pol hs o s r c hc).2.1

/-- One step, from a state whose cookies are all verified: a served data route is backed. -/
theorem served_step_is_backed (pol : Policy) (o : WebOpts) (s : SessState) (hv : AllVerified s)
    (p : String) (hp : p ∈ dataRoutes) (r : SReq) (ho : oauthSet o = true)
    (h : (stepData pol o s p r).2.outcome = .served) : staticOk o r ∨ sessionBacked s r := by
  -- the single-request model allows the request; `web_data_route_refuses` says for which credentials
  have ha := session_step_agrees_with_request_model pol o s p r true (dataRoutes_guarded p hp)
  rw [h] at ha
  refine (web_data_route_refuses p hp o _ r.now (by simpa [oauthSet, oauthConfigured] using ho) ha).imp_right ?_
  rintro ⟨c, hc, hd, hfresh⟩
  unfold abstractCookie at hc
  split at hc
  · cases hc
  · cases hc
    cases hd
  · rename_i i hrc
    split at hc
    · cases hc
      cases hd
    · rename_i c0 hsi
      cases hc
      exact ⟨i, c0, hrc, hsi, hv c0 (List.mem_of_getElem? hsi), hfresh.imp_right fun h => by simpa using h⟩

/-- Over any request sequence: every served data request is backed by the static token or by
    a verified, unexpired-or-just-re-verified session the server itself sealed. -/
theorem served_is_backed (pol : Policy) (hs : pol.safe = true) (o : WebOpts) (ho : oauthSet o = true)
    (rs : List SReq) : ∀ s0, AllVerified s0 →
    ∀ e ∈ sessionTrace pol o s0 rs, ∀ p ∈ dataRoutes, e.2.1.target = .data p →
      e.2.2.outcome = .served → staticOk o e.2.1 ∨ sessionBacked e.1 e.2.1 := by
  induction rs with
  | nil => intro s0 _ e he; simp [sessionTrace] at he
  | cons r rs ih =>
    intro s0 hv e he p hp ht hserved
    simp only [sessionTrace, List.mem_cons] at he
    rcases he with he | he
    · subst he
      simp only at ht hserved ⊢
      simp only [sessionStep, ht] at hserved
      exact served_step_is_backed pol o s0 hv p hp r ho hserved
    · have hv' : AllVerified (sessionStep pol o s0 r).1 :=
        issued_sessions_verified pol hs o [r] s0 hv
      exact ih _ hv' e he p hp ht hserved

/-- Every cookie in circulation anywhere in a sequence is one of the initial ones or was set
    by an authorised response (served / logged in) given on an "in org" answer — a cookie
    obtained from a refusal, a redirect or an error response does not exist. -/
theorem replayed_cookie_has_authorised_origin (pol : Policy) (hs : pol.safe = true) (o : WebOpts)
    (rs : List SReq) : ∀ s0, ∀ e ∈ sessionTrace pol o s0 rs, ∀ c ∈ e.1,
      c ∈ s0 ∨ ∃ e' ∈ sessionTrace pol o s0 rs, e'.2.2.setCookie = some c ∧
        e'.2.2.outcome.authorised = true ∧ e'.2.1.orgAns = .inOrg := by
  induction rs with
  | nil => intro s0 e he; simp [sessionTrace] at he
  | cons r rs ih =>
    intro s0 e he c hc
    simp only [sessionTrace, List.mem_cons] at he
    rcases he with he | he
    · subst he; exact Or.inl hc
    · rcases ih _ e he c hc with h | ⟨e', he', h⟩
      · rcases mem_step_state.1 h with h | hset
        · exact Or.inl h
        · have := issue_requires_inorg_answer pol hs o s0 r c hset
          exact Or.inr ⟨(s0, r, _), by simp [sessionTrace], hset, this.2.2, this.1⟩
      · exact Or.inr ⟨e', by simp [sessionTrace, he'], h⟩

/-- Over the regenerated cookie-write sites of web/*.go:
    (1) every site sits in `authenticate`, in `oauthCode`, or inside an unexported helper whose
        own call sites are listed;
    (2) every site outside a helper is reached only after `userInOrg` returned (true, nil);
    (3) the policy derived from the sites is exactly the model's `Policy.code`, which is safe;
    (4) there is a place where a session can start at all. -/
theorem all_cookie_writes_guarded :
    (∀ s ∈ Facts.cookieWriteSites, s.inHelper = true ∨ s.fn ∈ ["authenticate", "oauthCode"]) ∧
    (∀ s ∈ Facts.cookieWriteSites, s.inHelper = false → (guardOfSite s).safe = true ∧ s.onInOrg = true) ∧
    policyOfFacts Facts.cookieWriteSites = Policy.code ∧ Policy.code.safe = true ∧
    (∃ s ∈ Facts.cookieWriteSites, s.inHelper = false ∧ s.fn = "oauthCode") := by
  decide +kernel

/-! ## Witnesses: what the unsafe policies allow (the sequences the engine finds) -/

def outcomes (pol : Policy) (s0 : SessState) (rs : List SReq) : List (Outcome × Bool) :=
  (sessionTrace pol oauthOpts s0 rs).map (fun e => (e.2.2.outcome, e.2.2.setCookie.isSome))

/-- Seeded refactoring (`if err == nil { startSession }` at the re-check): a member whose
    session timed out and who has left the organisation is refused, but the refusal carries a
    fresh cookie, and replaying it is served with GitHub not even reachable. -/
theorem refresh_on_err_nil_witness :
    let rs := [dataReq "/immediate" (.issued 0) 7200 .notInOrg, dataReq "/immediate" (.issued 1) 7200 .unreachable]
    outcomes Policy.refreshOnErrNil [⟨7, 3600, true⟩] rs = [(.redirect, true), (.served, false)] ∧
    outcomes Policy.code [⟨7, 3600, true⟩] rs = [(.redirect, false), (.redirect, false)] := by decide +kernel

/-- D17 (before the fix): the OAuth callback sealed a session when the membership check
    FAILED — e.g. for the empty token GitHub's error reply to a bogus code yields. -/
theorem d17_witness_callback_error_starts_session :
    let rs := [callbackReq 0 .noToken .httpError, dataReq "/run" (.issued 0) 10 .unreachable]
    outcomes Policy.beforeD17 [] rs = [(.loggedIn, true), (.served, false)] ∧
    outcomes Policy.code [] rs = [(.redirect, false), (.redirect, false)] := by decide +kernel

/-- A refresh reached on a GitHub error, and a callback that seals before it checks. -/
theorem refresh_on_error_and_early_seal_witnesses :
    outcomes Policy.refreshOnError [⟨7, 0, true⟩]
      [dataReq "/run" (.issued 0) 10 .unreachable, dataReq "/run" (.issued 1) 10 .unreachable]
      = [(.redirect, true), (.served, false)] ∧
    outcomes Policy.callbackBeforeCheck []
      [callbackReq 0 (.token 9) .notInOrg, dataReq "/run" (.issued 0) 10 .unreachable]
      = [(.loggedIn, true), (.served, false)] := by decide +kernel

example : Policy.code.safe = true ∧ Policy.beforeD17.safe = false ∧
    Policy.refreshOnErrNil.safe = false := by decide
/-- a safe policy other than the code's: refresh after a successful re-verification -/
example : (⟨Guard.whenInOrg, Guard.whenInOrg⟩ : Policy).safe = true := by decide
/-- a legitimate login followed by use, expiry, re-verification and revocation -/
example : outcomes Policy.code []
    [dataReq "/run" .none 0 .unreachable, callbackReq 5 (.token 3) .inOrg,
     dataReq "/run" (.issued 0) 100 .unreachable, dataReq "/run" (.issued 0) 4000 .inOrg,
     dataReq "/run" (.issued 0) 4100 .notInOrg]
    = [(.redirect, false), (.loggedIn, true), (.served, false), (.served, false), (.redirect, false)] := by
  decide +kernel
example : Facts.cookieWriteSites.length ≥ 1 := by decide

end Zeno.C19
