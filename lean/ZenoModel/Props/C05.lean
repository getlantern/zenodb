/-
C05 — combining partial aggregates equals aggregating the raw points directly.

Property theorems only (helper lemmas: Lemmas/Expr*.lean, Lemmas/Seq*.lean).
All statements quantify over every valid PERCENTILE-free expression tree `e`
(`Ex.valid`, `Ex.noPtile`), every list of points and every split, with no bound.
The leaf arithmetic (`Gen.*`) is regenerated from /repo/expr on every run, so a
change to a closure re-opens these obligations.
-/
import ZenoModel.Lemmas.SeqMerge

namespace Zeno.C05
open Zeno

variable (x : Ext)

/-- Merging two partial states = accumulating all points into one state. -/
theorem merge_homomorphism {e : Ex} (hv : e.valid = true) (hp : e.noPtile = true)
    (ps₁ ps₂ : List Pt) :
    e.mrg (e.acc x ps₁) (e.acc x ps₂) = e.acc x (ps₁ ++ ps₂) :=
  mrg_acc_append x hv hp ps₁ ps₂

theorem merge_homomorphism3 {e : Ex} (hv : e.valid = true) (hp : e.noPtile = true)
    (ps₁ ps₂ ps₃ : List Pt) :
    e.mrg (e.mrg (e.acc x ps₁) (e.acc x ps₂)) (e.acc x ps₃) = e.acc x (ps₁ ++ ps₂ ++ ps₃) := by
  rw [merge_homomorphism x hv hp, merge_homomorphism x hv hp]

/-- The value read after merging (ratios such as AVG and `/` are recomputed from the merged
    components by `get`) is the value of the single accumulation. -/
theorem value_after_merge {e : Ex} (hv : e.valid = true) (hp : e.noPtile = true)
    (ps₁ ps₂ : List Pt) :
    e.val x (e.mrg (e.acc x ps₁) (e.acc x ps₂)) = e.val x (e.acc x (ps₁ ++ ps₂)) := by
  rw [merge_homomorphism x hv hp]

/-- Merge is commutative on well-formed states. -/
theorem merge_comm {e : Ex} (hv : e.valid = true) (hp : e.noPtile = true)
    {a b : List Cell} (ha : WF e a) (hb : WF e b) : e.mrg a b = e.mrg b a :=
  mrg_comm hv hp ha hb

/-- Merge is associative on well-formed states. -/
theorem merge_assoc {e : Ex} (hv : e.valid = true) (hp : e.noPtile = true)
    {a b c : List Cell} (ha : WF e a) (hb : WF e b) (hc : WF e c) :
    e.mrg (e.mrg a b) c = e.mrg a (e.mrg b c) :=
  mrg_assoc hv hp ha hb hc

/-- Every accumulated state is well-formed, so the hypotheses above are met by every state the
    system can produce by accumulating points (and, by `mrg_wf`, by merging such states). -/
theorem acc_wellformed {e : Ex} (hv : e.valid = true) (hp : e.noPtile = true) (ps : List Pt) :
    WF e (e.acc x ps) := acc_wf x hv hp ps

/-- The order in which two batches of points are accumulated does not matter. -/
theorem acc_batches_commute {e : Ex} (hv : e.valid = true) (hp : e.noPtile = true)
    (ps₁ ps₂ : List Pt) : e.acc x (ps₁ ++ ps₂) = e.acc x (ps₂ ++ ps₁) := by
  rw [← merge_homomorphism x hv hp, ← merge_homomorphism x hv hp,
    merge_comm hv hp (acc_wf x hv hp ps₁) (acc_wf x hv hp ps₂)]

/-- COUNT merges by adding counts although it updates by adding one. -/
theorem count_merge_adds (a b : Rat) : aggMerge .count true a b = a + b := by
  simp [aggMerge, Gen.agg_COUNT_merge]

/-- Restricting a stored series to a time range keeps exactly the periods whose end lies in
    `(asOf', until']` — the bounds rounded down onto the series' own grid, `0` meaning "no
    bound" — with their states unchanged; every other period reads as empty.  (That the
    operand is not modified is the frame property checked at byte level by the `seq`
    engine and proved for the heap model under C04.) -/
theorem truncate_keeps_window (e : Ex) {res : Int} (h : 0 < res) (q : Seq) (asOf hi : Int) (t : Int) :
    (Sq.truncate (some q) res asOf hi).at e res t =
      if (roundUntilDown asOf res q.hi = 0 ∨ roundUntilDown asOf res q.hi < t) ∧
         (roundUntilDown hi res q.hi = 0 ∨ t ≤ roundUntilDown hi res q.hi)
      then Sq.at (some q) e res t else e.empty :=
  sem_truncate e h q asOf hi t

/-- The bounds `Truncate` rounds to are the grid points just below the requested ones. -/
theorem truncate_bounds_rounding {t res hi : Int} (h : 0 < res) (ht : t ≠ 0) (hh : hi ≠ 0) :
    (hi - roundUntilDown t res hi) % res = 0 ∧ roundUntilDown t res hi ≤ t ∧
      t - res < roundUntilDown t res hi :=
  roundUntilDown_bounds h ht

/-- Merging two stored series (memory with disk, partition with partition): for every period
    that is still live (at or after the rounded truncateBefore), the merged series holds the
    merge of the two operands' states of that period — for any relative alignment of the two
    series on the common grid, any lengths, gaps or overlaps. -/
theorem series_merge_semantics {e : Ex} (hv : e.valid = true) (hp : e.noPtile = true)
    {res : Int} (h : 0 < res) (a b : Seq) (ha : CellsWF e a.cells) (hb : CellsWF e b.cells)
    (hal : (a.hi - b.hi) % res = 0) (tb t : Int)
    (hlive : roundUntilUp tb res (max a.hi b.hi) ≤ t) :
    (Sq.merge e res (some a) (some b) tb).at e res t =
      e.mrg (Sq.at (some a) e res t) (Sq.at (some b) e res t) :=
  sem_merge hv hp h a b ha hb hal tb t hlive

/-- Series merge is commutative in value on every live period. -/
theorem series_merge_comm {e : Ex} (hv : e.valid = true) (hp : e.noPtile = true)
    {res : Int} (h : 0 < res) (a b : Seq) (ha : CellsWF e a.cells) (hb : CellsWF e b.cells)
    (hal : (a.hi - b.hi) % res = 0) (tb t : Int)
    (hlive : roundUntilUp tb res (max a.hi b.hi) ≤ t) :
    (Sq.merge e res (some a) (some b) tb).at e res t =
      (Sq.merge e res (some b) (some a) tb).at e res t := by
  have hmax : max b.hi a.hi = max a.hi b.hi := Int.max_comm _ _
  rw [sem_merge hv hp h a b ha hb hal tb t hlive,
    sem_merge hv hp h b a hb ha (grid_symm hal) tb t (by rw [hmax]; exact hlive)]
  exact mrg_comm hv hp (at_wf ha res t) (at_wf hb res t)

/-- Merging with an empty series returns the other one unchanged. -/
theorem series_merge_empty (e : Ex) (res : Int) (s : Sq) (tb : Int) :
    Sq.merge e res none s tb = s ∧ Sq.merge e res s none tb = s := by
  cases s <;> simp [Sq.merge]

/-! Non-vacuity: a concrete non-trivial expression and points meet the hypotheses, and the
    homomorphism computes the expected numbers. -/

def exE : Ex := .bin .div (.agg .sum (.field "a")) (.avg (.field "b") (.const 1))
def exPs₁ : List Pt := [{ vals := [("a", 3), ("b", 4)] }, { vals := [("a", 1)] }]
def exPs₂ : List Pt := [{ vals := [("a", 5), ("b", 2)] }]

example : exE.valid = true ∧ exE.noPtile = true := by decide
example : exE.mrg (exE.acc default exPs₁) (exE.acc default exPs₂) =
    [.agg (some 9), .avg (some (2, 6))] := by decide +kernel
example : exE.val default (exE.acc default (exPs₁ ++ exPs₂)) = some 3 := by decide +kernel

def exSeq : Seq := ⟨1000, [[.agg (some 1)], [.agg (some 2)], [.agg (some 3)], [.agg (some 4)]]⟩
example : Sq.truncate (some exSeq) 10 975 995 = some ⟨990, [[.agg (some 2)], [.agg (some 3)]]⟩ := by
  decide +kernel

def exSeqB : Seq := ⟨980, [[.agg (some 10)], [.agg none], [.agg (some 30)]]⟩
example : CellsWF (.agg .sum (.field "a")) exSeq.cells ∧ (exSeq.hi - exSeqB.hi) % 10 = 0 := by
  constructor
  · intro c hc; simp [exSeq] at hc; rcases hc with rfl | rfl | rfl | rfl <;> rfl
  · decide
example : Sq.merge (.agg .sum (.field "a")) 10 (some exSeq) (some exSeqB) 0 =
    some ⟨1000, [[.agg (some 1)], [.agg (some 2)], [.agg (some 13)], [.agg (some 4)], [.agg (some 30)]]⟩ := by
  decide +kernel

end Zeno.C05
