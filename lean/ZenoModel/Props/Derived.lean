/-
Derived selected expressions (C06 / C07 / C08) — `a / b`, `SUM(a) * 2`, `IF(c, f)`, `a > b`, the
synthetic `_having` helper: selected expressions that are not table fields.  Their state is the
concatenation of the states of their sub-expressions; `Expr.SubMergers` wires, per scanned table
column, a closure (`SM.both`, `SM.right` with skip offsets, `SM.cond` gated by the source row's key)
that merges the column into the sub-expressions that print like it.

In this order: what the closures do, as the merge of an assembled state (`sem_apply`,
`sem_apply_row`); the cell of a derived output field = the derived expression accumulated over
`specQuery`'s bucket, IF conditions of the source key appended (`sem_groupRows_leafwise`,
`assemble_acc`, `group_cell_derived_end_to_end`); the read-out (`Flatten`, HAVING) with known finding
empty-bucket-row: runQuery's rows = specQuery's rows + rows on empty buckets
(`runQuery_derived_rows_decomposition`); last, the theorems applied to the data of
Lemmas/DerivedExample.lean.  Vocabulary and hypotheses: handoff/Derived.md.
-/
import ZenoModel.Lemmas.DerivedDecomp
import ZenoModel.Lemmas.DerivedExample

namespace Zeno.Derived
open Zeno

variable (x : Ext)

/-- the closure `core.Group` holds for `e` and column `j` (after `bytetree.New`'s de-dup; `nil` =
    nothing), run on the state `d` of `e` followed by any `rest`: merges `o` into exactly the slots of
    `e` that resolve to column `j` (`Ex.assemble` over `singleCol`), leaves every other slot and `rest`
    unchanged -/
theorem sem_apply {e : Ex} (hv : e.valid = true) (hp : e.noPtile = true) (hs : e.shiftFree = true)
    (subs : List Ex) (j : Nat) (cj : Ex) (hj : subs[j]? = some cj) (p : Pt)
    (d o rest : List Cell) (os : List (List Cell)) (otherRes : Int) (hd : WF e d) (ho : WF cj o) :
    applyOpt (colSM e subs j) (d ++ rest) (o :: os) otherRes p =
      e.mrg d (e.assemble subs p (singleCol subs j o)) ++ rest :=
  sem_apply_lem hv hp hs subs j cj hj p d o rest os otherRes hd ho

/-- the slots: for a binary expression that is not itself a column, the left operand's slots come
    first and take exactly `l.width` cells (the `skip` of `combinedSubMerge`) -/
theorem assemble_offsets (subs : List Ex) (p : Pt) (st : Nat → List Cell)
    (hst : ∀ i s, subs[i]? = some s → WF s (st i)) (op : BinOp) (l r : Ex)
    (hm : (Ex.bin op l r).matchIdx subs = none) :
    ((Ex.bin op l r).assemble subs p st).take l.width = l.assemble subs p st ∧
      ((Ex.bin op l r).assemble subs p st).drop l.width = r.assemble subs p st := by
  have hl := (assemble_wf subs p st hst l).length
  simp only [Ex.assemble, hm]
  rw [← hl, List.take_left, List.drop_left]
  exact ⟨rfl, rfl⟩

/-- a column that `bytetree.New` drops (an earlier column prints the same) fills no slot -/
theorem dropped_column_fills_nothing (subs : List Ex) (j : Nat) (hnf : ¬ FirstCol subs j) (p : Pt) (o : List Cell)
    (e : Ex) : e.assemble subs p (singleCol subs j o) = e.empty :=
  assemble_single_dropped subs j hnf p o e

theorem assemble_wellformed (subs : List Ex) (p : Pt) (st : Nat → List Cell)
    (hst : ∀ i s, subs[i]? = some s → WF s (st i)) (e : Ex) : WF e (e.assemble subs p st) :=
  assemble_wf subs p st hst e

/-- running the closures of all scanned columns of one source row, column by column (as
    `groupRows` does), = merging the state assembled from the row's columns -/
theorem sem_apply_row {e : Ex} (hv : e.valid = true) (hp : e.noPtile = true) (hs : e.shiftFree = true)
    (subs : List Ex) (p : Pt) (st : Nat → List Cell) (hst : ∀ i s, subs[i]? = some s → WF s (st i))
    (otherRes : Int) (d : List Cell) (hd : WF e d) :
    applyRow e subs p st otherRes d = e.mrg d (e.assemble subs p st) :=
  sem_applyRow_lem hv hp hs subs p st hst otherRes d hd

/-- `SubMerge` with the closure of column `j` is `SubMerge` with the direct sub-merger of `e` on the
    source sequence mapped, period by period, into the state space of `e` (`colImage`): all of
    SubMergeSem (window, buckets, grid) applies unchanged -/
theorem subMerge_reduces_to_direct {e : Ex} (hv : e.valid = true) (hp : e.noPtile = true) (hs : e.shiftFree = true)
    {subs : List Ex} {j : Nat} {cj : Ex} (hj : subs[j]? = some cj) {sm : SM} (hsm : colSM e subs j = some sm)
    {res otherRes hi : Int} (hres : 0 < res) (hor : 0 < otherRes) (s other : Sq) (p : Pt) (asOf : Int)
    (hr : RecvGrid e res hi s) (hwo : SqWF cj other) :
    Sq.subMerge e cj sm res otherRes s other p asOf hi 0 =
      Sq.subMerge e e (.direct e) res otherRes s (mapSq (colImage e subs j p) other) p asOf hi 0 :=
  subMerge_reduce hv hp (shiftFree_shiftOf hs) sm _ otherRes p (colSM_actsAs hv hp hs hj hsm otherRes p)
    (fun _ ho => colImage_wf e hj p ho) hres hor s other asOf hr hwo

/-- the state of a derived output field at (key `k`, out period `T`) = the merge,
    over exactly the scan rows of the group (`groupMembers`) and exactly the bucket's native periods
    (`bucketTimes`), of the state assembled from the row's stored columns at that period -/
theorem sem_groupRows_leafwise {cfg : TableCfg} {now : Int} {q : Query} {pl : Plan} {inFields : List Field}
    {rows : List Row} {kk i : Nat} {f : Field} (H : DerivedCell cfg now q pl inFields rows kk i f)
    (metas : List KeyMeta) (k : Key) (T : Int) (hT : (gUntilOf cfg now pl - T) % gResOf cfg pl = 0) :
    (groupCell cfg now q pl inFields metas rows k i).at f.ex (gResOf cfg pl) T =
      if gAsOfOf cfg now pl < T ∧ T ≤ gUntilOf cfg now pl
      then leafwise f.ex (inFields.map (·.ex)) metas cfg.res (groupMembers q rows k)
        (bucketTimes cfg.res kk (gAsOfOf cfg now pl) (gUntilOf cfg now pl) T) f.ex.empty
      else f.ex.empty :=
  sem_groupRows_leafwise_lem H metas k T hT

/-- the accumulator column stays on the out grid and inside the window -/
theorem groupRows_derived_invariant {cfg : TableCfg} {now : Int} {q : Query} {pl : Plan} {inFields : List Field}
    {rows : List Row} {kk i : Nat} {f : Field} (H : DerivedCell cfg now q pl inFields rows kk i f)
    (metas : List KeyMeta) (k : Key) :
    RecvGrid f.ex (gResOf cfg pl) (gUntilOf cfg now pl) (groupCell cfg now q pl inFields metas rows k i) ∧
    InWindow f.ex (gResOf cfg pl) (gAsOfOf cfg now pl) (gUntilOf cfg now pl)
      (groupCell cfg now q pl inFields metas rows k i) :=
  groupCell_derived_inv H metas k

/-- assembling the columns' accumulations of the points `ps` = accumulating `ps`
    directly with `e`, the source row's IF conditions appended to every point.  `resolved`: every
    aggregate lies in a sub-expression that is a column; the open (query-level) conditions are not
    among the points' own -/
theorem assemble_acc {subs : List Ex} {p : Pt} {ps : List Pt} (hp0 : p.noMeta = false)
    (hirr : ColsIgnore x subs p.conds) (e : Ex) (hv : e.valid = true) (hp : e.noPtile = true)
    (hres : e.resolved subs = true) (hfresh : ∀ c ∈ e.openConds subs, ∀ pt ∈ ps, pt.includes c = false) :
    e.assemble subs p (colAccs x subs ps) = e.acc x (ps.map (addConds p.conds)) :=
  Zeno.assemble_acc x hp0 hirr e hv hp hres hfresh

/-- a leaf under `IF(c, ·)` accumulates exactly the rows whose source key satisfies `c` -/
theorem if_accumulates_satisfying_rows (c : Nat) (w : Ex) (ps : List Pt) :
    ((∀ pt ∈ ps, pt.includes c = true) → (Ex.ifE c w).acc x ps = w.acc x ps) ∧
    ((∀ pt ∈ ps, pt.includes c = false) → (Ex.ifE c w).acc x ps = w.empty) :=
  ⟨acc_ifE_all x c w ps, acc_ifE_none x c w ps⟩

/-- the cell = the expression accumulated over the spec's bucket, with the store half as a
    hypothesis per scanned column (`hstore`) -/
theorem sem_groupRows_derived_spec {cfg : TableCfg} {now : Int} {q : Query} {pl : Plan}
    {inFields : List Field} {rows : List Row} {kk i : Nat} {f : Field}
    (H : DerivedCell cfg now q pl inFields rows kk i f) (metas : List KeyMeta)
    (hres : f.ex.resolved (inFields.map (·.ex)) = true)
    (k : Key) (T : Int) (hT : (gUntilOf cfg now pl - T) % gResOf cfg pl = 0)
    (hW : gAsOfOf cfg now pl < T ∧ T ≤ gUntilOf cfg now pl)
    (A : List AccRow) (hper : ∀ a ∈ A, a.period % cfg.res = 0) (hkeys : (rows.map (·.key)).Nodup)
    (hcover : ∀ a ∈ A, gAsOfOf cfg now pl < a.period ∧ a.period ≤ gUntilOf cfg now pl → ∃ r ∈ rows, r.key = a.key)
    (hirr : ∀ r ∈ rows, ColsIgnore x (inFields.map (·.ex)) (rowPt metas r).conds)
    (hfresh : ∀ c ∈ f.ex.openConds (inFields.map (·.ex)), ∀ a ∈ A, a.pt.includes c = false)
    (hstore : ∀ r ∈ rows, ∀ j cj, (inFields.map (·.ex))[j]? = some cj →
      ∀ t, gAsOfOf cfg now pl < t ∧ t ≤ gUntilOf cfg now pl →
        (r.cols.getD j none).at cj cfg.res t = cj.acc x (keyPeriodPts A (·.pt) r.key t)) :
    (groupCell cfg now q pl inFields metas rows k i).at f.ex (gResOf cfg pl) T =
      f.ex.acc x (specBucketPts q A (specAdj metas) (gAsOfOf cfg now pl) (gUntilOf cfg now pl) (gResOf cfg pl) k T) :=
  sem_groupRows_derived_spec_lem x H metas hres k T hT hW A hper hkeys hcover hirr hfresh hstore

/-- columns without IF (or a key without conditions) do not read the key-level conditions -/
theorem cols_ignore_conditions (subs : List Ex) :
    ((∀ c ∈ subs, c.noIf = true) → ∀ cs, ColsIgnore x subs cs) ∧ ColsIgnore x subs [] :=
  ⟨fun h cs => colsIgnore_of_noIf x subs h cs, colsIgnore_nil x subs⟩

/-- for every store script, the cell `core.Group` computes for a derived selected
    expression over the scan `runQuery` performs = the expression accumulated over `specQuery`'s bucket
    of accepted raw rows (the source key's IF conditions appended, as `specQuery` does) -/
theorem group_cell_derived_end_to_end {cfg : TableCfg} {ops : List StoreOp} {q : Query} {metas : List KeyMeta}
    {pl : Plan} (C : DerivedCtx x cfg ops q metas pl) (i : Nat) (f : Field) (hout : q.outFields[i]? = some f)
    (df : DerivedField x cfg ops q f) (k : Key) (T : Int)
    (hT : (gUntilOf cfg (runStore x cfg ops).now pl - T) % gResOf cfg pl = 0) :
    (groupCell cfg (runStore x cfg ops).now q pl (includedFields cfg q) metas (e2eScan x cfg ops q metas) k i).at
        f.ex (gResOf cfg pl) T =
      if gAsOfOf cfg (runStore x cfg ops).now pl < T ∧ T ≤ gUntilOf cfg (runStore x cfg ops).now pl
      then f.ex.acc x (specBucketPts q (specRows q metas (acceptedRows cfg true (pointsOf ops)).1) (specAdj metas)
        (gAsOfOf cfg (runStore x cfg ops).now pl) (gUntilOf cfg (runStore x cfg ops).now pl) (gResOf cfg pl) k T)
      else f.ex.empty := by
  rw [derived_cell_at x C i f hout df k T hT]
  split
  · rfl
  · rename_i hW
    rw [e2eBucket_outside x C k T hW]
    rfl

/-- at a grid time, for each selected field `Flatten` reads the value of the spec
    bucket's accumulation — for a non-constant field only if the period is physically present in the
    grouped column (`spanHas`), otherwise nothing (`readVal`) -/
theorem flatten_reads_derived {cfg : TableCfg} {ops : List StoreOp} {q : Query} {metas : List KeyMeta} {pl : Plan}
    (C : DerivedCtx x cfg ops q metas pl) (hall : ∀ f ∈ q.outFields, DerivedField x cfg ops q f)
    (g : Row) (hg : g ∈ e2eGroup x cfg ops q metas pl) (T : Int)
    (hT : (gUntilOf cfg (runStore x cfg ops).now pl - T) % gResOf cfg pl = 0) :
    flatAt x q.outFields (gResOf cfg pl) g T =
      rowOf ((q.outFields.zip g.cols).map (fun (fc : Field × Sq) =>
        (readVal x fc.1 fc.2 (gResOf cfg pl) T (e2eBucket x cfg ops q metas pl g.key T), fc.1.ex.isConstant))) T g.key :=
  (derived_readOut x C hall).flatAt_eq hg T hT

/-- `Flatten`'s row is the row `specOut` builds, at every slot that holds data in each field that would
    have a value without data (`HoldsData`; vacuous without constant operands) -/
theorem flatten_eq_spec_on_data {cfg : TableCfg} {ops : List StoreOp} {q : Query} {metas : List KeyMeta} {pl : Plan}
    (C : DerivedCtx x cfg ops q metas pl) (hall : ∀ f ∈ q.outFields, DerivedField x cfg ops q f)
    (g : Row) (hg : g ∈ e2eGroup x cfg ops q metas pl) (T : Int)
    (hT : (gUntilOf cfg (runStore x cfg ops).now pl - T) % gResOf cfg pl = 0)
    (hd : HoldsData x cfg ops q metas pl g.key T) :
    flatAt x q.outFields (gResOf cfg pl) g T = e2eSpecAt x cfg ops q metas pl g.key T :=
  (derived_readOut x C hall).flatAt_data hg T hT hd

/-- both results, unfolded: HAVING applied to the flattened / bucket-wise rows -/
theorem derived_results_unfolded {cfg : TableCfg} {ops : List StoreOp} {q : Query} {metas : List KeyMeta} {pl : Plan}
    (C : DerivedCtx x cfg ops q metas pl) (hall : ∀ f ∈ q.outFields, DerivedField x cfg ops q f)
    (hne : (includedFields cfg q).isEmpty = false) (hng : pl.needsGroupBy = true) :
    runQuery x cfg (runStore x cfg ops) q metas true =
        .ok (if q.hasHaving then havingFilter (e2eFlat x cfg ops q metas pl) else e2eFlat x cfg ops q metas pl) ∧
      specQuery x cfg true (pointsOf ops) q metas =
        .ok (if q.hasHaving then havingFilter (e2eSpecFlat x cfg ops q metas pl) else e2eSpecFlat x cfg ops q metas pl) := by
  constructor
  · exact runQuery_grouped x cfg _ q metas pl C.base.plan hne hng
  · rw [specQuery_script x cfg ops q metas pl C.base.plan]
    rfl

/-- no value on the empty state (`a / b`, `a + b`, `IF(c, f)`, `HAVING a > b`):
    `runQuery` and `specQuery` return the same rows as multisets — HAVING included -/
theorem runQuery_derived_rows_are_specQuery_rows {cfg : TableCfg} {ops : List StoreOp} {q : Query}
    {metas : List KeyMeta} {pl : Plan} (C : DerivedCtx x cfg ops q metas pl)
    (hall : ∀ f ∈ q.outFields, DerivedField x cfg ops q f) (hnv : NoEmptyValues x q)
    (hne : (includedFields cfg q).isEmpty = false) (hng : pl.needsGroupBy = true) :
    ∃ R S, runQuery x cfg (runStore x cfg ops) q metas true = .ok R ∧
      specQuery x cfg true (pointsOf ops) q metas = .ok S ∧ R.Perm S := by
  obtain ⟨h1, h2⟩ := derived_results_unfolded x C hall hne hng
  have hp : (e2eFlat x cfg ops q metas pl).Perm (e2eSpecFlat x cfg ops q metas pl) :=
    (derived_readOut x C hall).perm hnv
  refine ⟨_, _, h1, h2, ?_⟩
  split
  · exact hp.filterMap _
  · exact hp

/-- in general (constant operands, `HAVING f > 1`): both succeed and have the same rows at every
    slot (key, ts) that holds data — HAVING included -/
theorem runQuery_derived_rows_agree_on_data {cfg : TableCfg} {ops : List StoreOp} {q : Query}
    {metas : List KeyMeta} {pl : Plan} (C : DerivedCtx x cfg ops q metas pl)
    (hall : ∀ f ∈ q.outFields, DerivedField x cfg ops q f)
    (hne : (includedFields cfg q).isEmpty = false) (hng : pl.needsGroupBy = true) :
    ∃ R S, runQuery x cfg (runStore x cfg ops) q metas true = .ok R ∧
      specQuery x cfg true (pointsOf ops) q metas = .ok S ∧
      ∀ row : QRow, HoldsData x cfg ops q metas pl row.key row.ts → (row ∈ R ↔ row ∈ S) := by
  obtain ⟨h1, h2⟩ := derived_results_unfolded x C hall hne hng
  exact ⟨_, _, h1, h2, fun row hd =>
    ⟨having_mono _ (HoldsData x cfg ops q metas pl) (fun r hr => ((derived_readOut x C hall).mem_iff r hr).mp) row hd,
      having_mono _ (HoldsData x cfg ops q metas pl) (fun r hr => ((derived_readOut x C hall).mem_iff r hr).mpr) row hd⟩⟩

/-- known finding empty-bucket-row, one slot: at an empty bucket `Flatten` builds a row iff some
    non-constant field has a value on the empty state and the period is physically in its column -/
theorem empty_slot_row_iff {cfg : TableCfg} {ops : List StoreOp} {q : Query} {metas : List KeyMeta} {pl : Plan}
    (C : DerivedCtx x cfg ops q metas pl) (hall : ∀ f ∈ q.outFields, DerivedField x cfg ops q f)
    (g : Row) (hg : g ∈ e2eGroup x cfg ops q metas pl) (T : Int)
    (hT : (gUntilOf cfg (runStore x cfg ops).now pl - T) % gResOf cfg pl = 0)
    (hB : e2eBucket x cfg ops q metas pl g.key T = []) :
    (∃ row, flatAt x q.outFields (gResOf cfg pl) g T = some row) ↔
      ∃ fc ∈ q.outFields.zip g.cols, EmptyRead x (gResOf cfg pl) T fc := by
  rw [flatten_reads_derived x C hall g hg T hT, hB]
  constructor
  · intro ⟨row, h⟩
    obtain ⟨⟨p, hp, h1, h2⟩, _⟩ := (rowOf_eq_some_iff _ _ _ _).mp h
    obtain ⟨fc, hfc, rfl⟩ := List.mem_map.mp hp
    exact ⟨fc, hfc, h2, (readVal_nil_isSome x fc _ _ h2).mp h1⟩
  · intro ⟨fc, hfc, hnc, hs, hv⟩
    exact ⟨_, (rowOf_eq_some_iff _ _ _ _).mpr
      ⟨⟨_, List.mem_map.mpr ⟨fc, hfc, rfl⟩, (readVal_nil_isSome x fc _ _ hnc).mpr ⟨hs, hv⟩, hnc⟩, rfl⟩⟩

/-- known finding empty-bucket-row, the extra rows: a row of `runQuery` (before HAVING) whose bucket is
    empty is never a row of `specQuery`, stems from such an empty-state reading, and all its values are
    readings of empty states -/
theorem extra_rows_characterised {cfg : TableCfg} {ops : List StoreOp} {q : Query} {metas : List KeyMeta} {pl : Plan}
    (C : DerivedCtx x cfg ops q metas pl) (hall : ∀ f ∈ q.outFields, DerivedField x cfg ops q f)
    (row : QRow) (hr : row ∈ e2eFlat x cfg ops q metas pl)
    (hB : e2eBucket x cfg ops q metas pl row.key row.ts = []) :
    row ∉ e2eSpecFlat x cfg ops q metas pl ∧
      ∃ g ∈ e2eGroup x cfg ops q metas pl, g.key = row.key ∧
        (∃ fc ∈ q.outFields.zip g.cols, EmptyRead x (gResOf cfg pl) row.ts fc) ∧
        row.vals = (q.outFields.zip g.cols).map (fun fc => (readVal x fc.1 fc.2 (gResOf cfg pl) row.ts []).getD 0) := by
  refine ⟨fun hs => ((mem_specFlat x q metas _ _ _ _ row).mp hs).1 hB, ?_⟩
  obtain ⟨g, hg, hk, hT, hrow⟩ := ((derived_readOut x C hall).mem_flat row).mp hr
  rw [← hk] at hB
  refine ⟨g, hg, hk, (empty_slot_row_iff x C hall g hg row.ts hT hB).mp ⟨row, hrow⟩, ?_⟩
  rw [flatten_reads_derived x C hall g hg row.ts hT, hB] at hrow
  rw [((rowOf_eq_some_iff _ _ _ _).mp hrow).2, List.map_map]
  rfl

/-- physical spans through `SubMerge`: an out period inside the window that was physically present stays,
    and one whose bucket holds a physically present source period becomes present -/
theorem subMerge_physical_span {e : Ex} (hv : e.valid = true) (hp : e.noPtile = true) (hs : e.shiftOf = 0)
    {res otherRes : Int} {k : Nat} {asOf hi : Int} (w : SMWindow res otherRes k asOf hi)
    (s other : Sq) (p : Pt) (ho : SqOk otherRes other) (hwo : SqWF e other) (hg : RecvGrid e res hi s)
    (T : Int) (hT : (hi - T) % res = 0) (hW : asOf < T ∧ T ≤ hi) :
    (sqCovers s res T → sqCovers (Sq.subMerge e e (.direct e) res otherRes s other p asOf hi 0) res T) ∧
    ((∃ t ∈ bucketTimes otherRes k asOf hi T, sqCovers other otherRes t) →
      sqCovers (Sq.subMerge e e (.direct e) res otherRes s other p asOf hi 0) res T) :=
  subMerge_covers hs w s other p ho hwo hg T hT hW

/-- under `ScanSpans` (store side, hypothesis): `Flatten` = `specOut` at every non-empty bucket -/
theorem flatten_eq_spec_on_nonempty_bucket {cfg : TableCfg} {ops : List StoreOp} {q : Query} {metas : List KeyMeta}
    {pl : Plan} (C : DerivedCtx x cfg ops q metas pl) (hall : ∀ f ∈ q.outFields, DerivedField x cfg ops q f)
    (SS : ScanSpans x cfg ops q metas pl) (hst : StatefulFields q)
    (g : Row) (hg : g ∈ e2eGroup x cfg ops q metas pl) (T : Int)
    (hB : e2eBucket x cfg ops q metas pl g.key T ≠ []) :
    flatAt x q.outFields (gResOf cfg pl) g T = e2eSpecAt x cfg ops q metas pl g.key T :=
  derived_flatAt_bucket x C SS hall hst g hg T hB

/-- the exact relation (under `ScanSpans`): both succeed; every row of `specQuery` is a row of
    `runQuery`; every other row of `runQuery` sits on an empty bucket — HAVING included -/
theorem runQuery_derived_rows_decomposition {cfg : TableCfg} {ops : List StoreOp} {q : Query}
    {metas : List KeyMeta} {pl : Plan} (C : DerivedCtx x cfg ops q metas pl)
    (hall : ∀ f ∈ q.outFields, DerivedField x cfg ops q f) (SS : ScanSpans x cfg ops q metas pl)
    (hst : StatefulFields q) (hne : (includedFields cfg q).isEmpty = false) (hng : pl.needsGroupBy = true) :
    ∃ R S, runQuery x cfg (runStore x cfg ops) q metas true = .ok R ∧
      specQuery x cfg true (pointsOf ops) q metas = .ok S ∧
      (∀ row, row ∈ S → row ∈ R) ∧
      (∀ row, row ∈ R → row ∈ S ∨ e2eBucket x cfg ops q metas pl row.key row.ts = []) := by
  obtain ⟨h1, h2⟩ := derived_results_unfolded x C hall hne hng
  refine ⟨_, _, h1, h2, fun row => ?_, fun row hr => ?_⟩
  · exact having_mono _ (fun _ _ => True) (fun r _ hr =>
      (derived_mem_iff_bucket x C SS hall hst r ((mem_specFlat x q metas _ _ _ _ r).mp hr).1).mpr hr) row trivial
  · by_cases hB : e2eBucket x cfg ops q metas pl row.key row.ts = []
    · exact Or.inr hB
    · exact Or.inl (having_mono _ (fun k T => e2eBucket x cfg ops q metas pl k T ≠ [])
        (fun r hB' => (derived_mem_iff_bucket x C SS hall hst r hB').mp) row hB hr)

/-! ## Non-vacuity (data: Lemmas/DerivedExample.lean).  Table `SUM(a) AS f0, COUNT(b) AS f1`;
`dQ` = `SELECT f0 / f1 AS q, IF(c100, f0) AS r … GROUP BY d, period 20 HAVING f0 > 1`. -/

/-- `sem_apply` on `(f0 / f1) + IF(c100, f0)` (three slots): column f0 fills slots 0 and 2 — slot 2 only for
    a source row satisfying c100 —, column f1 fills slot 1 (`SM.right` with skip 1 inside `SM.both`).
    The real `Expr.SubMergers` gives the same three states (Go run: handoff/Derived.md §4) -/
example :
    let e : Ex := .bin .add (.bin .div dA dB) (.ifE 100 dA)
    let d : List Cell := [.agg (some 1), .agg (some 2), .agg (some 1)]
    applyOpt (colSM e [dA, dB] 0) d [[.agg (some 10)]] 10 { vals := [], conds := [100] } =
        [.agg (some 11), .agg (some 2), .agg (some 11)] ∧
    applyOpt (colSM e [dA, dB] 0) d [[.agg (some 10)]] 10 { vals := [] } = [.agg (some 11), .agg (some 2), .agg (some 1)] ∧
    applyOpt (colSM e [dA, dB] 1) d [[.agg (some 5)]] 10 { vals := [] } = [.agg (some 1), .agg (some 7), .agg (some 1)] ∧
    e.assemble [dA, dB] { vals := [], conds := [100] } (fun j => [.agg (some (10 + j : Nat))]) =
        [.agg (some 10), .agg (some 11), .agg (some 10)] ∧
    (colSM e [dA, dA, dB] 1).isNone = true := by decide +kernel

private theorem dNow : (runStore default dCfg dOps).now = 1040 := by decide +kernel
private theorem dPlan (q : Query) (h : (planLocal dCfg 1040 q).isOk = true) :
    planLocal dCfg (runStore default dCfg dOps).now q = .ok (dPl q) := by
  rw [dNow]; unfold dPl
  cases hp : planLocal dCfg 1040 q with
  | ok p => rfl
  | error e => rw [hp] at h; cases h
private theorem dCtx (q : Query) (h : (planLocal dCfg 1040 q).isOk = true) (hs : q.stride ≤ 0)
    (ha : 0 < gAsOfOf dCfg 1040 (dPl q)) (hw : q.hasWhere = false) :
    DerivedCtx default dCfg dOps q dMetas (dPl q) :=
  ⟨⟨by decide, by decide, dPlan q h, hs, by rw [dNow]; exact ha, by intro h'; rw [hw] at h'; cases h'⟩,
    show ∀ g ∈ dCfg.fields, _ from by decide,
    fun κ => colsIgnore_of_noIf default _ (fun c hc => by
      obtain ⟨f, hf, rfl⟩ := List.mem_map.mp hc
      have hall : ∀ g ∈ dCfg.fields, g.ex.noIf = true := by decide
      exact hall f ((includedFields_sublist dCfg q).subset hf)) _⟩
private theorem dFieldsOf (q : Query)
    (h : ∀ f ∈ q.outFields, (f.ex.valid && f.ex.noPtile && f.ex.shiftFree &&
        f.ex.resolved ((includedFields dCfg q).map (·.ex))) = true ∧
      ∀ c ∈ f.ex.openConds ((includedFields dCfg q).map (·.ex)),
        ∀ a ∈ (acceptedRows dCfg true (pointsOf dOps)).1, a.pt.includes c = false) :
    ∀ f ∈ q.outFields, DerivedField default dCfg dOps q f := by
  intro f hf
  obtain ⟨h1, h2⟩ := h f hf
  simp only [Bool.and_eq_true] at h1
  exact ⟨h1.1.1.1, h1.1.1.2, h1.1.2, h1.2, h2⟩
private theorem dFields : ∀ f ∈ dQ.outFields, DerivedField default dCfg dOps dQ f :=
  dFieldsOf dQ (by decide +kernel)
example : includedFields dCfg dQ = [⟨"f0", dA⟩, ⟨"f1", dB⟩] := by decide +kernel

/-- the general theorem applies to the HAVING query; here the extra rows at 980/1000 read `_having` = 0
    and are dropped by HAVING, so both sides return the same four rows (different orders) -/
example : ∃ R S, runQuery default dCfg (runStore default dCfg dOps) dQ dMetas true = .ok R ∧
    specQuery default dCfg true (pointsOf dOps) dQ dMetas = .ok S ∧
    ∀ row : QRow, HoldsData default dCfg dOps dQ dMetas (dPl dQ) row.key row.ts → (row ∈ R ↔ row ∈ S) :=
  runQuery_derived_rows_agree_on_data default (dCtx dQ (by decide +kernel) (by decide) (by decide +kernel) rfl) dFields
    (by decide +kernel) (by decide +kernel)
example :
    okRows (runQuery default dCfg (runStore default dCfg dOps) dQ dMetas true) =
      [⟨960, [("d", "1")], [8, 0]⟩, ⟨1020, [("d", "1")], [4, 2]⟩, ⟨1040, [("d", "1")], [6, 4]⟩, ⟨1040, [("d", "2")], [3, 3]⟩] ∧
    okRows (specQuery default dCfg true (pointsOf dOps) dQ dMetas) =
      [⟨1020, [("d", "1")], [4, 2]⟩, ⟨1040, [("d", "1")], [6, 4]⟩, ⟨1040, [("d", "2")], [3, 3]⟩, ⟨960, [("d", "1")], [8, 0]⟩] := by
  decide +kernel


/-- `group_cell_derived_end_to_end` on the example, cells of d=1 at the out periods 960 … 1040: `q`'s two slots hold SUM(a) and
    COUNT(b) of all member rows; `r = IF(c100, f0)` holds SUM(a) of the rows of key (d=1,e=x) only (2 at
    1020, 4 at 1040; the 6 and the 8s of (d=1,e=y) are not merged) — as the spec's bucket accumulation says -/
example :
    [960, 980, 1000, 1020, 1040].map (fun T =>
      (groupCell dCfg 1040 dQ (dPl dQ) (includedFields dCfg dQ) dMetas (e2eScan default dCfg dOps dQ dMetas) [("d", "1")] 0).at
        (.bin .div dA dB) 20 T) =
      [[.agg (some 8), .agg (some 1)], [.agg none, .agg none], [.agg none, .agg none],
       [.agg (some 8), .agg (some 2)], [.agg (some 12), .agg (some 2)]] ∧
    [960, 980, 1000, 1020, 1040].map (fun T =>
      (groupCell dCfg 1040 dQ (dPl dQ) (includedFields dCfg dQ) dMetas (e2eScan default dCfg dOps dQ dMetas) [("d", "1")] 1).at
        (.ifE 100 dA) 20 T) = [[.agg none], [.agg none], [.agg none], [.agg (some 2)], [.agg (some 4)]] ∧
    [960, 980, 1000, 1020, 1040].map (fun T => (Ex.ifE 100 dA).acc default (e2eBucket default dCfg dOps dQ dMetas (dPl dQ) [("d", "1")] T)) =
      [[.agg none], [.agg none], [.agg none], [.agg (some 2)], [.agg (some 4)]] := by decide +kernel

/-- `HoldsData` on the example: the `_having` helper `f0 > 1` has a value (0) on the empty state, so the
    gap slot (d=1, 980) does not hold data, the slot (d=1, 1020) does -/
example : ¬ HoldsData default dCfg dOps dQ dMetas (dPl dQ) [("d", "1")] 980 ∧
    HoldsData default dCfg dOps dQ dMetas (dPl dQ) [("d", "1")] 1020 := by
  unfold HoldsData; decide +kernel

/-- no value on the empty state, with HAVING (`HAVING f0 > f1`): equal as multisets -/
example : ∃ R S, runQuery default dCfg (runStore default dCfg dOps) dQ3 dMetas true = .ok R ∧
    specQuery default dCfg true (pointsOf dOps) dQ3 dMetas = .ok S ∧ R.Perm S := by
  refine runQuery_derived_rows_are_specQuery_rows default
    (dCtx dQ3 (by decide +kernel) (by decide) (by decide +kernel) rfl) (dFieldsOf dQ3 (by decide +kernel)) ?_
    (by decide +kernel) (by decide +kernel)
  unfold NoEmptyValues; decide +kernel
example : (okRows (runQuery default dCfg (runStore default dCfg dOps) dQ3 dMetas true)).map (fun r => (r.ts, r.key, r.vals)) =
    [(960, [("d", "1")], [8, 0]), (1020, [("d", "1")], [4, 2]), (1040, [("d", "1")], [6, 4]), (1040, [("d", "2")], [3, 3])] := by
  decide +kernel

/-- known finding empty-bucket-row on the example (`SELECT f0 * 2`): `runQuery` returns two rows more
    than `specQuery`, at the gap periods 980 and 1000 of d=1, value 0 read from the empty state;
    `extra_rows_characterised` applies to them -/
example :
    (okRows (runQuery default dCfg (runStore default dCfg dOps) dQ2 dMetas true)).map (fun r => (r.ts, r.key, r.vals)) =
      [(960, [("d", "1")], [16]), (980, [("d", "1")], [0]), (1000, [("d", "1")], [0]), (1020, [("d", "1")], [16]),
       (1040, [("d", "1")], [24]), (1040, [("d", "2")], [6])] ∧
    (okRows (specQuery default dCfg true (pointsOf dOps) dQ2 dMetas)).map (fun r => (r.ts, r.key, r.vals)) =
      [(1020, [("d", "1")], [16]), (1040, [("d", "1")], [24]), (1040, [("d", "2")], [6]), (960, [("d", "1")], [16])] ∧
    (⟨980, [("d", "1")], [0]⟩ : QRow) ∈ e2eFlat default dCfg dOps dQ2 dMetas (dPl dQ2) ∧
    e2eBucket default dCfg dOps dQ2 dMetas (dPl dQ2) [("d", "1")] 980 = [] ∧
    (Ex.bin .mul dA (.const 2)).val default (Ex.bin .mul dA (.const 2)).empty = some 0 := by decide +kernel


/-- `ScanSpans` holds on the example (decidable), so the decomposition applies to `SELECT f0 * 2` -/
example : ∃ R S, runQuery default dCfg (runStore default dCfg dOps) dQ2 dMetas true = .ok R ∧
    specQuery default dCfg true (pointsOf dOps) dQ2 dMetas = .ok S ∧ (∀ row, row ∈ S → row ∈ R) ∧
    (∀ row, row ∈ R → row ∈ S ∨ e2eBucket default dCfg dOps dQ2 dMetas (dPl dQ2) row.key row.ts = []) := by
  refine runQuery_derived_rows_decomposition default
    (dCtx dQ2 (by decide +kernel) (by decide) (by decide +kernel) rfl) (dFieldsOf dQ2 (by decide +kernel)) ?_ ?_
    (by decide +kernel) (by decide +kernel)
  · unfold ScanSpans; decide +kernel
  · unfold StatefulFields; decide

end Zeno.Derived
