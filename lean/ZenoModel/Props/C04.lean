/-
C04 — queries are read-only: running any query never changes stored data.

The property theorems (model: Model/SeqHeap.lean; lemmas: Lemmas/SeqHeap.lean,
Lemmas/SeqHeapRefine.lean).  The effect model says, for every `encoding.Sequence`
operation the query path uses, which byte ranges of which buffers the Go code stores
into.  All statements hold for every heap size `n` (buffers `0 … n-1` exist before the
call, fresh ones are `n, n+1, …`), all operand views and all value-level parameters, with
no bound.  "Stored data" = the buffers that existed before the query started.
-/
import ZenoModel.Lemmas.SeqHeap
import ZenoModel.Lemmas.SeqHeapRefine

namespace Zeno.C04
open Zeno

/-- `Truncate` (after the D1 fix) stores into freshly allocated memory only; in particular
    never into its operand. -/
theorem frame_truncate (n : Nat) (s : SV) (w : Nat) (res asOf hi : Int) :
    (∀ x ∈ (truncateEff n s w res asOf hi).writes, n ≤ x.buf) ∧
    (∀ v, s.sl = some v → v.buf < n → ∀ x ∈ (truncateEff n s w res asOf hi).writes, x.buf ≠ v.buf) :=
  ⟨truncateEff_writes, fun _ _ hlt => truncateEff_writes.ne_of_lt hlt⟩

/-- `Merge` stores into freshly allocated memory only; never into either operand. -/
theorem frame_merge (n : Nat) (a b : SV) (w : Nat) (res tb : Int) :
    (∀ x ∈ (mergeEff n a b w res tb).writes, n ≤ x.buf) ∧
    (∀ v, (a.sl = some v ∨ b.sl = some v) → v.buf < n →
      ∀ x ∈ (mergeEff n a b w res tb).writes, x.buf ≠ v.buf) :=
  ⟨mergeEff_writes, fun _ _ hlt => mergeEff_writes.ne_of_lt hlt⟩

/-- `rowMerger` (`out[o] = out[o].Merge(seq, …)`) inherits the frame of `Merge`: the
    memstore column `seq` and the file column `out[o]` are only read. -/
theorem frame_rowMerger (n : Nat) (fileCol memCol : SV) (w : Nat) (res tb : Int) :
    ∀ x ∈ (rowMergerEff n fileCol memCol w res tb).writes, n ≤ x.buf :=
  (frame_merge n fileCol memCol w res tb).1

/-- `ValueAtTime` stores nothing at all. -/
theorem frame_valueAt (s : SV) (e : Ex) (res t : Int) : (valueAtEff s e res t).writes = [] :=
  valueAtEff_writes_nil s e res t

/-- a sub-merge closure (`e.Merge(data, data, other)`, combined / conditional / shifted)
    stores into `data` only: every write lies in `data`'s buffer. -/
theorem frame_subMerger (cb : List Nat) (ow : Nat) (otherRes : Int) (p : Pt) (sm : SM) (data other : View) (c0 : Nat) :
    ∀ x ∈ smWrites cb ow otherRes p sm data c0 other, x.buf = data.buf :=
  smWrites_writes (P := (· = data.buf)) rfl

/-- `SubMerge` stores into freshly allocated memory or into its receiver's buffer, and never
    into `other`'s buffer when receiver and `other` live in different buffers. -/
theorem frame_subMerge (n : Nat) (ex otherEx : Ex) (sm : SM) (res otherRes : Int) (s other : SV) (p : Pt)
    (asOf hi strideSlice : Int) :
    (∀ x ∈ (subMergeEff n ex otherEx sm res otherRes s other p asOf hi strideSlice).writes,
        n ≤ x.buf ∨ ∃ v, s.sl = some v ∧ x.buf = v.buf) ∧
    (∀ ov, other.sl = some ov → ov.buf < n → (∀ v, s.sl = some v → v.buf ≠ ov.buf) →
      ∀ x ∈ (subMergeEff n ex otherEx sm res otherRes s other p asOf hi strideSlice).writes, x.buf ≠ ov.buf) :=
  ⟨subMergeEff_spec.1, fun _ _ hlt hne => subMergeEff_spec.1.ne_of_bufFrom hlt hne⟩

/-- the result of `SubMerge` is the receiver itself, or lives in the receiver's buffer or in
    a fresh one — never in `other`'s (so grouping never hands a stored sequence on as its own
    result). -/
theorem subMerge_result_not_other (n : Nat) (ex otherEx : Ex) (sm : SM) (res otherRes : Int) (s other : SV) (p : Pt)
    (asOf hi strideSlice : Int) :
    (subMergeEff n ex otherEx sm res otherRes s other p asOf hi strideSlice).out = s ∨
    ∃ v', (subMergeEff n ex otherEx sm res otherRes s other p asOf hi strideSlice).out.sl = some v' ∧
      (n ≤ v'.buf ∨ ∃ v, s.sl = some v ∧ v'.buf = v.buf) :=
  subMergeEff_spec.2

/-- for contrast, the insert path: `UpdateValue` does store into its receiver (in-place
    update of an existing period) — and into nothing else that existed before. -/
theorem frame_updateValue (n : Nat) (s : SV) (w : Nat) (res ts tb : Int) :
    ∀ x ∈ (updateValueEff n s w res ts tb).writes, n ≤ x.buf ∨ ∃ v, s.sl = some v ∧ x.buf = v.buf := by
  show WritesIn (BufFrom n s.sl) _
  unfold updateValueEff
  extract_lets +onlyGivenNames ts' untl tb' out fresh
  have hn : BufFrom n s.sl n := Or.inl (Nat.le_refl n)
  have hfresh : WritesIn (BufFrom n s.sl) fresh.writes := by
    simp [fresh, out, hn]
  split
  · exact truncateEff_writes.of_fresh (Nat.le_refl n) s.sl
  · split
    · exact hfresh
    · rename_i v hv
      -- all remaining branches store into a fresh `out`, but the last: `UpdateValueAt` on `v` itself
      have hrecv : BufFrom n s.sl v.buf := Or.inr ⟨v, hv, rfl⟩
      simp [apply_ite Eff.writes, apply_ite (WritesIn _), hfresh, hn, hrecv]

/-- `Merge` returns an operand itself — no copy, nothing allocated, nothing written — exactly
    when the other operand is empty or the earlier operand is wholly expired; otherwise the
    result is a fresh buffer. -/
theorem alias_merge (n : Nat) (a b : SV) (w : Nat) (res tb : Int) :
    (a.len = 0 → (mergeEff n a b w res tb).out = b) ∧
    (a.len ≠ 0 → b.len = 0 → (mergeEff n a b w res tb).out = a) ∧
    (a.len ≠ 0 → b.len ≠ 0 → b.hi > a.hi → a.hi < roundUntilUp tb res b.hi → (mergeEff n a b w res tb).out = b) ∧
    (a.len ≠ 0 → b.len ≠ 0 → ¬ b.hi > a.hi → b.hi < roundUntilUp tb res a.hi → (mergeEff n a b w res tb).out = a) ∧
    (a.len ≠ 0 → b.len ≠ 0 → (b.hi > a.hi → ¬ a.hi < roundUntilUp tb res b.hi) →
      (¬ b.hi > a.hi → ¬ b.hi < roundUntilUp tb res a.hi) →
      ∃ size, (mergeEff n a b w res tb).out.sl = some ⟨n, 0, size, size⟩ ∧ (mergeEff n a b w res tb).allocs = [size]) ∧
    (((mergeEff n a b w res tb).out = a ∨ (mergeEff n a b w res tb).out = b) →
      (mergeEff n a b w res tb).out.sl ≠ some ⟨n, 0, (mergeEff n a b w res tb).out.len, (mergeEff n a b w res tb).out.len⟩ →
      (mergeEff n a b w res tb).allocs = [] ∧ (mergeEff n a b w res tb).writes = []) := by
  refine ⟨fun ha => ?_, fun ha hb => ?_, fun ha hb hgt hex => ?_, fun ha hb hgt hex => ?_, fun ha hb h1 h2 => ?_,
    fun _ hne => ?_⟩
  · rw [mergeEff_of_left_empty ha]
  · obtain ⟨va, hva, hna⟩ := a.len_cases.resolve_left ha
    rw [mergeEff_of_right_empty hva hna hb]
  · obtain ⟨va, hva, hna⟩ := a.len_cases.resolve_left ha
    obtain ⟨vb, hvb, hnb⟩ := b.len_cases.resolve_left hb
    rw [mergeEff_of_views hva hna hvb hnb, if_pos hgt, if_pos hex]
  · obtain ⟨va, hva, hna⟩ := a.len_cases.resolve_left ha
    obtain ⟨vb, hvb, hnb⟩ := b.len_cases.resolve_left hb
    rw [mergeEff_of_views hva hna hvb hnb, if_neg hgt, if_pos hex]
  · obtain ⟨va, hva, hna⟩ := a.len_cases.resolve_left ha
    obtain ⟨vb, hvb, hnb⟩ := b.len_cases.resolve_left hb
    rw [mergeEff_of_views hva hna hvb hnb]
    by_cases hgt : b.hi > a.hi
    · rw [if_pos hgt, if_neg (h1 hgt)]
      exact ⟨_, rfl, rfl⟩
    · rw [if_neg hgt, if_neg (h2 hgt)]
      exact ⟨_, rfl, rfl⟩
  · rcases mergeEff_spec n a b w res tb with h | h | ⟨va, vb, sa, sb, h⟩
    · rw [h]
      exact ⟨rfl, rfl⟩
    · rw [h]
      exact ⟨rfl, rfl⟩
    · rw [h] at hne
      exact absurd rfl hne

/-- `Truncate` returns nil, or a prefix re-slice of its operand (same buffer, same offset,
    same capacity, not longer; then nothing was allocated or written), or a slice at offset 0
    of the one fresh buffer.  The re-slice happens exactly when the `until` bound cuts
    nothing off the front. -/
theorem alias_truncate (n : Nat) (s : SV) (w : Nat) (res asOf hi : Int) :
    ((truncateEff n s w res asOf hi).out.sl = none ∨
     (∃ v v', s.sl = some v ∧ (truncateEff n s w res asOf hi).out.sl = some v' ∧
        v'.buf = v.buf ∧ v'.off = v.off ∧ v'.len ≤ v.len ∧ v'.cap = v.cap ∧
        (truncateEff n s w res asOf hi).allocs = [] ∧ (truncateEff n s w res asOf hi).writes = []) ∨
     (∃ v', (truncateEff n s w res asOf hi).out.sl = some v' ∧ v'.buf = n ∧ v'.off = 0 ∧
        (truncateEff n s w res asOf hi).allocs.length = 1)) ∧
    (∀ v, s.sl = some v → v.buf < n → ∀ v', (truncateEff n s w res asOf hi).out.sl = some v' →
      (v'.buf = n ↔ (roundUntilDown hi res s.hi ≠ 0 ∧ (s.hi - roundUntilDown hi res s.hi).tdiv res > 0))) := by
  rcases (truncateEff_spec n s w res asOf hi).2 with h | ⟨v, v', hs, ho, hb, hoff, hlen, hcap, hal, hwr, hcut⟩ |
    ⟨v', ho, hb, hoff, hal, hcut⟩
  · refine ⟨Or.inl h, fun _ _ _ v' hv' => ?_⟩
    rw [h] at hv'
    cases hv'
  · refine ⟨Or.inr (Or.inl ⟨v, v', hs, ho, hb, hoff, hlen, hcap, hal, hwr⟩), fun v₀ hv₀ hlt v₁ hv₁ => ?_⟩
    cases hs.symm.trans hv₀
    cases ho.symm.trans hv₁
    exact ⟨fun h => absurd (hb.symm.trans h) (Nat.ne_of_lt hlt), fun h => absurd h hcut⟩
  · refine ⟨Or.inr (Or.inr ⟨v', ho, hb, hoff, hal⟩), fun _ _ _ v₁ hv₁ => ?_⟩
    cases ho.symm.trans hv₁
    exact ⟨fun _ => hcut, fun _ => hb⟩

/-- whatever `Merge` returned — a fresh buffer or one of its operands, i.e. possibly the
    memstore's stored sequence — handing it on to `SubMerge` as `other` (what grouping does)
    writes neither operand of the merge, for any receiver that lives elsewhere. -/
theorem alias_tracking (n : Nat) (a b : SV) (w : Nat) (res tb : Int)
    (ex otherEx : Ex) (sm : SM) (qres otherRes : Int) (recv : SV) (p : Pt) (asOf hi stride : Int)
    (n' : Nat) (hn' : n + (mergeEff n a b w res tb).allocs.length ≤ n')
    (v : View) (hv : a.sl = some v ∨ b.sl = some v) (hlt : v.buf < n)
    (hrecv : ∀ rv, recv.sl = some rv → rv.buf ≠ v.buf) :
    ∀ x ∈ (mergeEff n a b w res tb).writes ++
        (subMergeEff n' ex otherEx sm qres otherRes recv (mergeEff n a b w res tb).out p asOf hi stride).writes,
      x.buf ≠ v.buf := by
  intro x hx
  rcases List.mem_append.mp hx with h | h
  · exact (frame_merge n a b w res tb).2 v hv hlt x h
  · exact subMergeEff_spec.1.ne_of_bufFrom (Nat.lt_of_lt_of_le hlt (Nat.le_trans (Nat.le_add_right _ _) hn')) hrecv x h

/-- The composition the query path performs on one stored column and one group — per source
    row: read the file row into a buffer of the scan's own, `rowMerger` (file column with the
    memstore column: a column of the scan's snapshot — a private copy since /repo 63b81da, the
    live memstore's own sequence before; the theorem does not care which), `SubMerge` into the out
    tree's own sequence (nil at first); finally `ValueAtTime` in flatten — never stores into a
    buffer that existed before the query started.  For any number of source rows, any views
    (also: several rows aliasing the same stored sequence), any expressions, sub-mergers,
    resolutions, time ranges and strides. -/
theorem query_frame (n0 : Nat) (fe ex : Ex) (sm : SM) (tres tb qres asOf hi stride : Int)
    (rows : List SrcRow) (ts : List Int) :
    ∀ x ∈ (queryColEff n0 fe ex sm tres tb qres asOf hi stride rows ts).writes, n0 ≤ x.buf :=
  queryColEff_inv.2.1

/-- … hence the stored sequences themselves are never written (`r`, `_hr`, `_hv` only say which
    `v` is meant: any buffer below `n0` will do): -/
theorem query_never_writes_store (n0 : Nat) (fe ex : Ex) (sm : SM) (tres tb qres asOf hi stride : Int)
    (rows : List SrcRow) (ts : List Int) (r : SrcRow) (_hr : r ∈ rows) (v : View) (_hv : r.mem.sl = some v)
    (hlt : v.buf < n0) :
    ∀ x ∈ (queryColEff n0 fe ex sm tres tb qres asOf hi stride rows ts).writes, x.buf ≠ v.buf :=
  queryColEff_inv.2.1.ne_of_lt hlt

/-- … and the out tree's sequence the query ends up with is not part of the store either. -/
theorem query_result_is_own (n0 : Nat) (fe ex : Ex) (sm : SM) (tres tb qres asOf hi stride : Int)
    (rows : List SrcRow) (ts : List Int) :
    ∀ v, (queryColEff n0 fe ex sm tres tb qres asOf hi stride rows ts).out.sl = some v → n0 ≤ v.buf :=
  queryColEff_inv.2.2

/-- Whatever bytes the query stores: every byte of every buffer that existed before the query
    has the same value afterwards … -/
theorem store_bytes_unchanged (n0 : Nat) (fe ex : Ex) (sm : SM) (tres tb qres asOf hi stride : Int)
    (rows : List SrcRow) (ts : List Int) (h h' : Nat → Nat → UInt8)
    (hexec : Agrees h h' (queryColEff n0 fe ex sm tres tb qres asOf hi stride rows ts).writes) :
    ∀ b, b < n0 → ∀ o, h' b o = h b o :=
  fun _ hb => hexec.unchanged queryColEff_inv.2.1 (Nat.not_le.2 hb)

/-- … so anything computed from the store alone — a probe query right after, the next flush,
    a probe after that flush — sees exactly what it would have seen without the query. -/
theorem probe_unchanged {α : Type} (n0 : Nat) (fe ex : Ex) (sm : SM) (tres tb qres asOf hi stride : Int)
    (rows : List SrcRow) (ts : List Int) (h h' : Nat → Nat → UInt8)
    (hexec : Agrees h h' (queryColEff n0 fe ex sm tres tb qres asOf hi stride rows ts).writes)
    (probe : (Nat → Nat → UInt8) → α)
    (hstore : ∀ h₁ h₂ : Nat → Nat → UInt8, (∀ b, b < n0 → ∀ o, h₁ b o = h₂ b o) → probe h₁ = probe h₂) :
    probe h' = probe h :=
  hstore h' h (store_bytes_unchanged n0 fe ex sm tres tb qres asOf hi stride rows ts h h' hexec)

/-- `Tree.Copy` (the memstore snapshot a scan works on; /repo 63b81da): new node objects, a new
    `[]Sequence` array and one fresh byte buffer per node that has data (its size = the summed
    lengths of the node's sequences); every sequence of the copy is a view with `cap = len`
    into one of these fresh buffers `n … n + #allocs - 1`, with the length and `until` of the
    original (nil stays nil); and the copy writes these fresh buffers only. -/
theorem treeCopy_fresh (nObj nArr n : Nat) (t : List TNode) :
    (∀ nd ∈ (treeCopyEff nObj nArr n t).nodes, ∀ cols, nd.data = some cols → ∀ s' ∈ cols, ∀ v', s'.sl = some v' →
      n ≤ v'.buf ∧ v'.buf < n + (treeCopyEff nObj nArr n t).allocs.length ∧ v'.cap = v'.len) ∧
    (∀ w ∈ (treeCopyEff nObj nArr n t).writes,
      n ≤ w.buf ∧ w.buf < n + (treeCopyEff nObj nArr n t).allocs.length) ∧
    (treeCopyEff nObj nArr n t).nodes.map TNode.shape = t.map TNode.shape ∧
    (treeCopyEff nObj nArr n t).nodes.map (·.obj) = (List.range t.length).map (· + nObj) ∧
    (∀ nd ∈ (treeCopyEff nObj nArr n t).nodes, nd.data ≠ none → nArr ≤ nd.dataArr) ∧
    (treeCopyEff nObj nArr n t).allocs = t.filterMap (fun nd => nd.data.map colsTotal) := by
  induction t generalizing nObj nArr n with
  | nil => simp [treeCopyEff_nil]
  | cons a as ih =>
    cases hd : a.data with
    | none =>
      obtain ⟨hv, hw, hsh, hobj, harr, hal⟩ := ih (nObj + 1) nArr n
      rw [treeCopyEff_none nObj nArr n a as hd]
      refine ⟨List.forall_mem_cons.2 ⟨nofun, hv⟩, hw, ?_, ?_, List.forall_mem_cons.2 ⟨fun hne => absurd rfl hne, harr⟩, ?_⟩
      · simp only [List.map_cons, hsh, TNode.shape, hd, Option.map_none]
      · simp only [List.map_cons, hobj, List.length_cons, range_shift]
      · simp only [hal, List.filterMap_cons, hd, Option.map_none]
    | some cols0 =>
      obtain ⟨hv, hw, hsh, hobj, harr, hal⟩ := ih (nObj + 1) (nArr + 1) (n + 1)
      obtain ⟨hcs, hcv, hcw⟩ := copyColsEff_in n cols0 0
      rw [treeCopyEff_some nObj nArr n a as cols0 hd]
      simp only [List.length_cons]
      refine ⟨List.forall_mem_cons.2 ⟨?_, ?_⟩, ?_, ?_, ?_, List.forall_mem_cons.2 ⟨fun _ => Nat.le_refl _, ?_⟩, ?_⟩
      · intro cols hcols s' hs' v' hv'
        cases hcols
        obtain ⟨hb, hcap⟩ := hcv s' hs' v' hv'
        exact ⟨Nat.le_of_eq hb.symm, by omega, hcap⟩
      · intro nd hnd cols hcols s' hs' v' hv'
        have := hv nd hnd cols hcols s' hs' v' hv'
        exact ⟨by omega, by omega, this.2.2⟩
      · intro w hw'
        rcases List.mem_append.mp hw' with h | h
        · have := hcw w h
          exact ⟨by omega, by omega⟩
        · have := hw w h
          exact ⟨by omega, by omega⟩
      · simp only [List.map_cons, hsh, TNode.shape, hd, Option.map_some, hcs]
      · simp only [List.map_cons, hobj, range_shift]
      · exact fun nd hnd hne => Nat.le_trans (Nat.le_succ _) (harr nd hnd hne)
      · simp only [hal, List.filterMap_cons, hd, Option.map_some]

/-- the copy shares no byte with the live tree: no view of the copy lies in a buffer of a live
    sequence (any buffer that existed before the copy), and the copy itself writes none of them. -/
theorem treeCopy_disjoint_from_live (nObj nArr n : Nat) (t : List TNode) (v : View) (hlive : v.buf < n) :
    (∀ nd ∈ (treeCopyEff nObj nArr n t).nodes, ∀ cols, nd.data = some cols → ∀ s' ∈ cols, ∀ v', s'.sl = some v' →
      v'.buf ≠ v.buf) ∧
    (∀ w ∈ (treeCopyEff nObj nArr n t).writes, w.buf ≠ v.buf) :=
  ⟨fun nd hnd cols hcols s' hs' v' hv' =>
      Nat.ne_of_gt (Nat.lt_of_lt_of_le hlive ((treeCopy_fresh nObj nArr n t).1 nd hnd cols hcols s' hs' v' hv').1),
    WritesIn.ne_of_lt (fun w hw => ((treeCopy_fresh nObj nArr n t).2.1 w hw).1) hlive⟩

/-- the frame between live tree and snapshot, both ways.  (1) Whatever is stored afterwards
    into buffers that existed before the copy — inserts into the live memstore (`UpdateValue` in
    place) included — no byte of any sequence of the copy changes.  (2) Whatever is stored
    through the copy or into anything allocated after it (the query's own buffers), no byte of
    a buffer that existed before the copy changes. -/
theorem treeCopy_isolated (nObj nArr n : Nat) (t : List TNode) (h h' : Nat → Nat → UInt8) (ws : List Write)
    (hexec : Agrees h h' ws) :
    ((∀ w ∈ ws, w.buf < n) →
      ∀ nd ∈ (treeCopyEff nObj nArr n t).nodes, ∀ cols, nd.data = some cols → ∀ s' ∈ cols, ∀ v', s'.sl = some v' →
        ∀ o, h' v'.buf o = h v'.buf o) ∧
    ((∀ w ∈ ws, n ≤ w.buf) → ∀ b, b < n → ∀ o, h' b o = h b o) :=
  ⟨fun hold nd hnd cols hcols s' hs' v' hv' =>
      hexec.unchanged (P := (· < n)) hold
        (Nat.not_lt.2 ((treeCopy_fresh nObj nArr n t).1 nd hnd cols hcols s' hs' v' hv').1),
    fun hnew _ hb => hexec.unchanged (P := (n ≤ ·)) hnew (Nat.not_le.2 hb)⟩

/-- a memstore-inclusive query as a whole: snapshot the memstore (`Tree.Copy` at buffer count
    `n0`), then run the query path over any source rows — in particular rows whose memstore
    column is a column of the snapshot.  Nothing that existed before is written. -/
theorem query_with_snapshot_frame (nObj nArr n0 : Nat) (t : List TNode) (fe ex : Ex) (sm : SM)
    (tres tb qres asOf hi stride : Int) (rows : List SrcRow) (ts : List Int) :
    ∀ x ∈ (treeCopyEff nObj nArr n0 t).writes ++
        (queryColEff (n0 + (treeCopyEff nObj nArr n0 t).allocs.length) fe ex sm tres tb qres asOf hi stride rows ts).writes,
      n0 ≤ x.buf := by
  intro x hx
  rcases List.mem_append.mp hx with h | h
  · exact ((treeCopy_fresh nObj nArr n0 t).2.1 x h).1
  · exact Nat.le_trans (Nat.le_add_right _ _) (query_frame _ fe ex sm tres tb qres asOf hi stride rows ts x h)

/-- the code before /repo 63b81da (D9), for the record: the copy carried the live tree's own
    data arrays and sequences — every view of the "copy" is a view of the live tree (which is
    why the frame theorems of the query path carried the whole burden then, and why a live
    insert was visible through the snapshot: C18). -/
theorem treeCopyShared_aliases (nObj : Nat) (t : List TNode) :
    (treeCopyEffShared nObj t).map (·.data) = t.map (·.data) ∧
    (treeCopyEffShared nObj t).map (·.dataArr) = t.map (·.dataArr) ∧
    (treeCopyEffShared nObj t).map (·.obj) = (List.range t.length).map (· + nObj) := by
  induction t generalizing nObj with
  | nil => simp [treeCopyEffShared]
  | cons a as ih =>
    have := ih (nObj + 1)
    simp only [treeCopyEffShared, List.map_cons, this.1, this.2.1, this.2.2, List.length_cons, true_and]
    exact (range_shift nObj as.length).symm

/-! ### the results of the effect model have the length and `until` of the value model's (`Rep`) -/

theorem truncate_refines {w : Nat} (hw : 0 < w) (n : Nat) {sv : SV} {s : Sq} (h : Rep w sv s) (res asOf hi : Int) :
    Rep w (truncateEff n sv w res asOf hi).out (s.truncate res asOf hi) :=
  truncateEff_refines hw n h res asOf hi

theorem merge_refines {w : Nat} (hw : 0 < w) (n : Nat) (e : Ex) {sa sb : SV} {a b : Sq}
    (ha : Rep w sa a) (hb : Rep w sb b) (res tb : Int) :
    Rep w (mergeEff n sa sb w res tb).out (Sq.merge e res a b tb) :=
  mergeEff_refines hw n e ha hb res tb

theorem subMerge_refines (n : Nat) (ex otherEx : Ex) (hw : 0 < ex.bytes) (how : 0 < otherEx.bytes) (sm : SM)
    (res otherRes : Int) {sv ov : SV} {s other : Sq} (hs : Rep ex.bytes sv s) (ho : Rep otherEx.bytes ov other)
    (p : Pt) (asOf hi strideSlice : Int) :
    Rep ex.bytes (subMergeEff n ex otherEx sm res otherRes sv ov p asOf hi strideSlice).out
      (Sq.subMerge ex otherEx sm res otherRes s other p asOf hi strideSlice) :=
  subMergeEff_refines n ex otherEx hw how sm res otherRes hs ho p asOf hi strideSlice

/-- `Truncate` as it was (`result = result[bytesToRemove:]; result.SetUntil(until)`): whenever
    the `until` bound cuts periods off the front (and something remains), 8 bytes of the
    operand's buffer are overwritten — inside the operand's own data. -/
theorem truncateBuggy_writes_operand_general (v : View) (shi : Int) (w : Nat) (res asOf hi : Int)
    (hlen : v.len ≠ 0) (hne : roundUntilDown hi res shi ≠ 0)
    (hcut : (shi - roundUntilDown hi res shi).tdiv res > 0)
    (hrem : ¬ ((shi - roundUntilDown hi res shi).tdiv res).toNat * w + 8 ≥ v.len) :
    (⟨v.buf, v.off + ((shi - roundUntilDown hi res shi).tdiv res).toNat * w, 8⟩ : Write) ∈
      (truncateEffBuggy ⟨some v, shi⟩ w res asOf hi).writes := by
  simp only [truncateEffBuggy, if_neg hlen, truncUntilEffBuggy, if_pos hne, if_pos hcut, if_neg hrem,
    (truncAsOfEff_spec _ w res _).2.1]
  exact List.mem_singleton.2 rfl

/-- the concrete witness (the replay of the finding): a stored sequence of 3 periods of 9 bytes
    ending at t=1000 (resolution 10), lying at offset 16 of buffer 0; `Truncate(until = 990)`
    of the old code writes 8 bytes at offset 25 of buffer 0 — the first stored period that
    survives — although buffer 0 existed before the call.  The fixed code writes buffer 1 only. -/
theorem truncateBuggy_writes_operand :
    (⟨0, 25, 8⟩ : Write) ∈ (truncateEffBuggy ⟨some ⟨0, 16, 35, 35⟩, 1000⟩ 9 10 0 990).writes ∧
    (∀ x ∈ (truncateEff 1 ⟨some ⟨0, 16, 35, 35⟩, 1000⟩ 9 10 0 990).writes, x.buf = 1) := by
  constructor
  · decide
  · decide

/-- a stored sequence: 4 periods of 9 bytes until t=1000, at offset 16 of buffer 0, with 20
    bytes of spare capacity -/
def exA : SV := ⟨some ⟨0, 16, 44, 64⟩, 1000⟩
/-- another one in buffer 1: 2 periods until t=980 -/
def exB : SV := ⟨some ⟨1, 0, 26, 26⟩, 980⟩

-- until cuts one period: fresh buffer 2 (35 bytes), data copied, header written
example : truncateEff 2 exA 9 10 0 990 =
    ⟨⟨some ⟨2, 0, 35, 35⟩, 990⟩, [35], [⟨2, 8, 27⟩, ⟨2, 0, 8⟩]⟩ := by decide
-- asOf only: a prefix re-slice of the operand, nothing allocated, nothing written
example : truncateEff 2 exA 9 10 970 0 = ⟨⟨some ⟨0, 16, 35, 64⟩, 1000⟩, [], []⟩ := by decide
-- both: fresh buffer, then re-sliced
example : truncateEff 2 exA 9 10 970 990 =
    ⟨⟨some ⟨2, 0, 26, 35⟩, 990⟩, [35], [⟨2, 8, 27⟩, ⟨2, 0, 8⟩]⟩ := by decide
-- merge with an empty operand returns the other operand itself (alias)
example : (mergeEff 2 SV.nil exA 9 10 0).out = exA ∧ (mergeEff 2 exA SV.nil 9 10 0).out = exA := by decide
-- merge of two overlapping sequences: fresh buffer 2; header, 2 lead periods, 2 merged periods
example : mergeEff 2 exA exB 9 10 0 =
    ⟨⟨some ⟨2, 0, 44, 44⟩, 1000⟩, [44], [⟨2, 0, 8⟩, ⟨2, 8, 18⟩, ⟨2, 26, 9⟩, ⟨2, 35, 9⟩]⟩ := by decide
-- the earlier operand wholly expired: the later operand itself
example : (mergeEff 2 exB exA 9 10 995).out = exA := by decide
-- ValueAtTime reads one state and writes nothing
example : valueAtEff exA (.agg .sum (.field "a")) 10 980 = ⟨some ⟨0, 16 + 8 + 18, 18⟩, []⟩ := by decide
-- SubMerge into a nil receiver: a fresh one-period result (buffer 2), grown by appending
-- (buffer 3), then one sub-merge write per source period, all into buffer 3
example : subMergeEff 2 (.agg .sum (.field "a")) (.agg .sum (.field "a")) (.direct (.agg .sum (.field "a")))
    20 10 SV.nil exA { vals := [] } 0 0 0 =
    ⟨⟨some ⟨3, 0, 26, 26⟩, 1000⟩, [17, 26], [⟨2, 0, 8⟩, ⟨3, 0, 17⟩, ⟨3, 8, 9⟩, ⟨3, 8, 9⟩, ⟨3, 17, 9⟩, ⟨3, 17, 9⟩]⟩ := by
  decide
-- SubMerge into an existing receiver (buffer 1) that already spans the source: in-place
-- writes into the receiver's buffer only
example : subMergeEff 2 (.agg .sum (.field "a")) (.agg .sum (.field "a")) (.direct (.agg .sum (.field "a")))
    10 10 ⟨some ⟨1, 0, 44, 44⟩, 1000⟩ exA { vals := [] } 0 0 0 =
    ⟨⟨some ⟨1, 0, 44, 44⟩, 1000⟩, [], [⟨1, 8, 9⟩, ⟨1, 17, 9⟩, ⟨1, 26, 9⟩, ⟨1, 35, 9⟩]⟩ := by decide
-- the query path on two source rows sharing the stored sequence exA (buffer 0 < n0 = 2), the
-- second one also present in the file: writes go to buffers 2, 3, … only
example : ((queryColEff 2 (.agg .sum (.field "a")) (.agg .sum (.field "a")) (.direct (.agg .sum (.field "a")))
    10 0 20 0 0 0 [⟨exA, none, { vals := [] }⟩, ⟨exA, some (100, 30, 26, 1000), { vals := [] }⟩] [1000]).writes.map (·.buf)) =
    [2, 3, 3, 3, 3, 3, 4, 5, 5, 5, 5, 3, 3, 3, 3] := by decide
-- Tree.Copy of a two-node tree (node 0: two sequences in buffers 0 and 1, one nil column; node 1:
-- no data): node 0's sequences are copied back to back into the fresh buffer 2 (44 + 26 bytes),
-- cap = len, nil stays nil; the old code handed out the live views themselves
example : treeCopyEff 10 20 2 [⟨0, 0, some [exA, SV.nil, exB]⟩, ⟨1, 1, none⟩] =
    ⟨[⟨10, 20, some [⟨some ⟨2, 0, 44, 44⟩, 1000⟩, ⟨none, 0⟩, ⟨some ⟨2, 44, 26, 26⟩, 980⟩]⟩, ⟨11, 1, none⟩],
      [70], [⟨2, 0, 44⟩, ⟨2, 44, 26⟩]⟩ := by decide
example : treeCopyEffShared 10 [⟨0, 0, some [exA, SV.nil, exB]⟩, ⟨1, 1, none⟩] =
    [⟨10, 0, some [exA, SV.nil, exB]⟩, ⟨11, 1, none⟩] := by decide
-- Rep is inhabited by a non-trivial pair, and the value model agrees on the example above
example : Rep 9 exA (some ⟨1000, [[.agg none], [.agg none], [.agg none], [.agg none]]⟩) := ⟨rfl, rfl⟩
example : Sq.truncate (some ⟨1000, [[.agg none], [.agg none], [.agg none], [.agg none]]⟩) 10 970 990 =
      some ⟨990, [[.agg none], [.agg none]]⟩ ∧
    (truncateEff 2 exA 9 10 970 990).out = ⟨some ⟨2, 0, 8 + 2 * 9, 35⟩, 990⟩ := by decide

end Zeno.C04
