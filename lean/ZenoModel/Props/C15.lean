/-
C15 — altering a table keeps the stored values of every field it retains; added fields start
empty and are filled only by points processed afterwards; a new WHERE applies only to points
processed after the change.

Layers (model: Model/Alter.lean on top of Model/Store.lean):
* field mapping (`outIdxsFor`, `rowMapper`, `rowMerger`) — proved for all field lists without
  duplicate printed identities: permutations, insertions, deletions, any widths (the mapping is
  per column);
* one scanned / rewritten row, per field identity — proved for all three layouts (file header as
  resolved, memstore layout, requested / new layout): an alter acts on a retained column as the
  one-column model's truncating flush, an added column is written empty;
* one column over whole histories of ingest / flush / restart / alter — refinement to the
  raw-point spec (`AColSpec`), unbounded histories;
* the list-of-rows plumbing between the store model and the column model is tied by the
  executable simulation check `stepMismatches` (evaluated by the driver on every generated
  history) and the store model is tied to the code by the `alter` correspondence engine.

The identity of a field in this code path is its printed form (`Field.same`).  Where that makes
the property false at full strength the negation is proved with a concrete witness:
`added_field_empty_full_false` (AVG/WAVG print alike — known finding C15-wavg-avg-identity) and,
for the code as found (`AStore.alterPre`), `asfound_added_field_empty_false` (D14a; `AStore.alter` is the
code with handoff/C15-fix-2-D14a.diff).
-/
import ZenoModel.Lemmas.AlterColumn
import ZenoModel.Lemmas.AlterRow

namespace Zeno.C15Ex
open Zeno
/-! fixtures of the witnesses and examples (own namespace: not proof obligations) -/
def pointsF : Field := { name := "_points", ex := .agg .sum (.field "_point") }
def sumF (n : String) : Field := { name := n, ex := .agg .sum (.field n) }
def avgX : Field := { name := "x", ex := .avg (.field "b") (.const 1) }
def wavgX : Field := { name := "x", ex := .avg (.field "b") (.field "a") }
def wCfg (fs : List Field) : TableCfg := { fields := pointsF :: fs, res := 10, retention := 1000, groupBy := none }
def wPt (ts : Int) (k : String) (vals : List (String × Rat)) : AOp :=
  .ingest { ts := ts, dims := [("d", k)], vals := vals.map (fun (n, v) => (n, [v])) }

end Zeno.C15Ex

namespace Zeno.C15
open Zeno Zeno.C15Ex

variable (x : Ext)

/-- For an out list without duplicate printed identities, `outIdxsFor out inn` sends every
    in-field to the out position that prints like it (there is exactly one candidate), and an
    unknown header entry or a field that no out field prints like to "none" (−1): permutations,
    insertions and deletions of fields of any width. -/
theorem outIdxs_correct {out : List Field} (hnd : IdNodup out) (inn : List (Option Field)) (i : Nat)
    (hi : i < inn.length) :
    (outIdxsFor out inn).length = inn.length ∧
    (∀ o, (outIdxsFor out inn)[i]? = some (some o) ↔
      ∃ f, inn[i] = some f ∧ ∃ ho : o < out.length, f.same out[o] = true) ∧
    ((outIdxsFor out inn)[i]? = some none ↔
      (inn[i] = none ∨ ∃ f, inn[i] = some f ∧ ∀ g ∈ out, f.same g = false)) ∧
    (∀ f o o' (ho : o < out.length) (ho' : o' < out.length), inn[i] = some f →
      f.same out[o] = true → f.same out[o'] = true → o = o') := by
  have hget : inn[i]? = some inn[i] := List.getElem?_eq_getElem hi
  have hlen := outIdxsFor_length out inn
  have hi' : i < (outIdxsFor out inn).length := by omega
  have hD : (outIdxsFor out inn)[i]? = some ((outIdxsFor out inn).getD i none) := by
    rw [List.getD_eq_getElem?_getD, List.getElem?_eq_getElem hi']; rfl
  refine ⟨hlen, ?_, ?_, ?_⟩
  · intro o
    rw [hD, Option.some.injEq]
    constructor
    · intro h
      obtain ⟨f, hf, h⟩ := outIdxsFor_some h
      exact ⟨f, Option.some.inj (hget.symm.trans hf), h⟩
    · rintro ⟨f, hf, ho, hs⟩
      exact outIdxsFor_of_same hnd (hget.trans (congrArg some hf)) ho hs
  · rw [outIdxsFor_getElem?, hget]
    cases hf : inn[i] with
    | none => simp
    | some f =>
      simp only [Option.map_some, Option.some.injEq, List.findIdx?_eq_none_iff, reduceCtorEq, false_or]
      constructor
      · intro h; exact ⟨f, rfl, h⟩
      · rintro ⟨g, hg, h⟩; cases hg; exact h
  · intro f o o' ho ho' _ hs hs'
    exact Option.some.inj ((findIdx_same hnd ho hs).symm.trans (findIdx_same hnd ho' hs'))

/-- Out-column `o` of a scanned file row = merge (with `out[o]`'s expression) of what the file
    row stores and what the memstore row holds for the field printed like `out[o]`; a layout
    that lacks the field contributes the empty series.  All three layouts arbitrary. -/
theorem scanned_column_by_identity (cfg : TableCfg) (tb : Int) {out : List Field} (hout : IdNodup out)
    {ff : List (Option Field)} (hff : IdNodupO ff) {mf : List Field} (hmf : IdNodup mf)
    (fileCols : List Sq) (ms : Option (List Sq)) (o : Nat) (ho : o < out.length) :
    (scanFileRow cfg tb out ff mf fileCols ms).1.getD o none =
      Sq.merge out[o].ex cfg.res (fileColOf ff out[o] fileCols) (memColOf mf out[o] ms) tb :=
  scanFileRow_col cfg tb hout hff hmf fileCols ms o ho

/-- An alter acts on a retained column as the column model's `flush false`: what the rewrite
    stores at the field's new position is the truncated merge of the series at its old file
    position and the series at its old memstore position. -/
theorem alter_acts_as_column_flush (cfg : TableCfg) (now : Int) {out : List Field} (hout : IdNodup out)
    {ff : List (Option Field)} (hff : IdNodupO ff) {mf : List Field} (hmf : IdNodup mf)
    (key : Key) (fileCols : List Sq) (ms : Option (List Sq)) (o : Nat) (ho : o < out.length) :
    writtenCol (writeRow cfg (now - cfg.retention)
        { key := key, cols := (scanFileRow cfg (now - cfg.retention) out ff mf fileCols ms).1 }) o =
      (Col.step x { e := out[o].ex, res := cfg.res, retention := cfg.retention }
        { file := fileColOf ff out[o] fileCols, mem := memColOf mf out[o] ms, now := now } (.flush false)).file := by
  rw [writtenCol_writeRow, scanFileRow_col cfg _ hout hff hmf fileCols ms o ho]
  rfl

/-- the same for a memstore row without file row: the file side is the empty series -/
theorem alter_acts_as_column_flush_memrow (cfg : TableCfg) (now : Int) {out : List Field} (hout : IdNodup out)
    {mf : List Field} (hmf : IdNodup mf) (key : Key) (m : List Sq) (o : Nat) (ho : o < out.length) :
    writtenCol (writeRow cfg (now - cfg.retention)
        { key := key, cols := scanMemRow cfg (now - cfg.retention) out mf m }) o =
      (Col.step x { e := out[o].ex, res := cfg.res, retention := cfg.retention }
        { file := none, mem := memColOf mf out[o] (some m), now := now } (.flush false)).file :=
  alter_acts_as_column_flush x cfg now hout (ff := []) .nil hmf key [] (some m) o ho

/-- Refinement with restarts and alters: after any history of inserts, flushes, restarts and
    alters that retain the field, a memstore-inclusive scan returns on every never-expired period
    exactly the accumulation of the accepted rows that round up to it. -/
theorem retained_refines_spec (cfg : ColCfg) (hv : cfg.e.valid = true) (hp : cfg.e.noPtile = true)
    (hres : 0 < cfg.res) (ops : List AColOp) (hpos : AOpsPos ops) (T : Int)
    (hl : LiveH cfg (hwmOf x cfg ops) T) (hT0 : 0 < T) :
    ((Col.arun x cfg {} ops).view cfg true).at cfg.e cfg.res T = cfg.e.acc x (rowsForA cfg T 0 ops) := by
  rw [aview_eq_spec x cfg hv hp hres (acolInv_run x cfg hv hp hres ops hpos) T hl hT0, aspec_foldl_cells]
  -- `spec0` starts at clock 0 with every cell empty, and `acc` folds `upd` from the empty state
  rfl

/-- The values stored for a retained field are the same immediately before and immediately
    after an alter (whether it rewrites the file or not, re-encoding the row or passing it
    through), whatever happened before. -/
theorem alter_view_unchanged (cfg : ColCfg) (hv : cfg.e.valid = true) (hp : cfg.e.noPtile = true)
    (hres : 0 < cfg.res) (ops : List AColOp) (hpos : AOpsPos ops) (b raw : Bool) (T : Int)
    (hl : LiveH cfg (hwmOf x cfg ops) T) (hT0 : 0 < T) :
    ((Col.arun x cfg {} (ops ++ [.alterKeep b raw])).view cfg true).at cfg.e cfg.res T =
      ((Col.arun x cfg {} ops).view cfg true).at cfg.e cfg.res T := by
  have i₁ := acolInv_run x cfg hv hp hres ops hpos
  have hpos2 : AOpsPos (ops ++ [.alterKeep b raw]) := aopsPos_append hpos trivial
  have i₂ := acolInv_run x cfg hv hp hres _ hpos2
  have hs : AColSpec.run x cfg (spec0 cfg) (ops ++ [.alterKeep b raw]) = AColSpec.run x cfg (spec0 cfg) ops := by
    simp [AColSpec.run, List.foldl_append, AColSpec.step]
  rw [aview_eq_spec x cfg hv hp hres i₁ T hl hT0,
    aview_eq_spec x cfg hv hp hres i₂ T (by rw [hs]; exact hl) hT0, hs]

/-- The values stored for a retained field stay equal to those of the never-altered run (same history with every alter
    erased) after any later inserts, flushes and restarts: at every moment, on every
    never-expired period. -/
theorem alter_preserves_retained (cfg : ColCfg) (hv : cfg.e.valid = true) (hp : cfg.e.noPtile = true)
    (hres : 0 < cfg.res) (ops : List AColOp) (hpos : AOpsPos ops) (T : Int)
    (hl : LiveH cfg (hwmOf x cfg ops) T) (hT0 : 0 < T) :
    ((Col.arun x cfg {} ops).view cfg true).at cfg.e cfg.res T =
      ((Col.arun x cfg {} (eraseAlters ops)).view cfg true).at cfg.e cfg.res T ∧
    (Col.arun x cfg {} ops).now = (Col.arun x cfg {} (eraseAlters ops)).now ∧
    hwmOf x cfg ops = hwmOf x cfg (eraseAlters ops) := by
  have i₁ := acolInv_run x cfg hv hp hres ops hpos
  have i₂ := acolInv_run x cfg hv hp hres _ (aopsPos_erase hpos)
  have hs := aspec_erase x cfg ops (spec0 cfg)
  refine ⟨?_, ?_, ?_⟩
  · rw [aview_eq_spec x cfg hv hp hres i₁ T hl hT0,
      aview_eq_spec x cfg hv hp hres i₂ T (by rw [← hs]; exact hl) hT0, hs]
  · rw [i₁.now_eq, i₂.now_eq, hs]
  · unfold hwmOf; rw [hs]

/-- With identity = printed form: a field whose identity is in neither the file header (as
    resolved) nor the memstore layout reads as empty in every row of every scan right after the
    alter that adds it (on disk and with the memstore). -/
theorem added_field_empty_partial (a : AStore) (fields : List Field) (w : Option Nat)
    (hne : fieldsSame fields a.cfg.fields = false) (hnd : IdNodup fields) (o : Nat) (ho : o < fields.length)
    (hfile : ∀ (i : Nat) (g : Field), a.st.fileFields[i]? = some (some g) → g.same fields[o] = false)
    (hmem : ∀ g ∈ a.st.memFields, g.same fields[o] = false) (includeMem : Bool) :
    ∀ row ∈ (a.alter fields w).scan fields includeMem, row.cols.getD o none = none := by
  simp only [AStore.alter, hne, Bool.false_eq_true, if_false, AStore.scan]
  exact scan_after_rewrite_added_none { a.cfg with fields := fields } a.st hnd o ho hfile hmem includeMem

/-- The same over whole histories of `AStore.step` (alters by `AStore.alter`): after any history of
    inserts, flushes, restarts and alters, an alter that brings a field whose printed identity is not in the
    current definition leaves that field empty in every row. -/
theorem added_field_empty (cfg : TableCfg) (w : Option Nat) (ops : List AOp) (fields : List Field) (w' : Option Nat)
    (hnd : IdNodup fields) (o : Nat) (ho : o < fields.length)
    (hnew : ∀ g ∈ (AStore.run x cfg w ops).cfg.fields, g.same fields[o] = false) (includeMem : Bool) :
    ∀ row ∈ ((AStore.run x cfg w ops).alter fields w').scan fields includeMem, row.cols.getD o none = none := by
  have inv := layoutInv_run x cfg w ops
  generalize AStore.run x cfg w ops = a at *
  have hne : fieldsSame fields a.cfg.fields = false := by
    cases h : fieldsSame fields a.cfg.fields with
    | false => rfl
    | true =>
      obtain ⟨ho', hs⟩ := fieldsSame_get h o ho
      have := hnew a.cfg.fields[o] (List.getElem_mem ho')
      rw [Field.same_symm hs] at this; exact absurd this (by decide)
  apply added_field_empty_partial a fields w' hne hnd o ho
  · intro i g hg
    obtain ⟨h, hh, hs⟩ := inv.file_sub i g hg
    cases hc : g.same fields[o] with
    | false => rfl
    | true =>
      have := hnew h hh
      rw [Field.same_trans (Field.same_symm hs) hc] at this; exact absurd this (by decide)
  · rw [inv.mem_eq]; exact hnew

/-- An added field is filled only by the points processed afterwards: a column that is empty at
    clock `n` holds, after any later history, exactly the accumulation of the rows accepted in
    that later history. -/
theorem added_field_filled_by_later_points (cfg : ColCfg) (hv : cfg.e.valid = true) (hp : cfg.e.noPtile = true)
    (hres : 0 < cfg.res) (n h : Int) (hn : 0 ≤ n) (hnh : n ≤ h) (ops : List AColOp) (hpos : AOpsPos ops) (T : Int)
    (hl : LiveH cfg (AColSpec.run x cfg { s := { now := n, cells := fun _ => cfg.e.empty }, hwm := h } ops).hwm T)
    (hT0 : 0 < T) :
    ((Col.arun x cfg { now := n } ops).view cfg true).at cfg.e cfg.res T = cfg.e.acc x (rowsForA cfg T n ops) :=
  aview_run x cfg hv hp hres (acolInv_fresh x cfg hv hp n h hn hnh) ops hpos T hl hT0

/-! ### full strength fails on printed identity: witnesses -/

/-- the property at full strength, for a given alter function: a field of the new definition that is
    not a field (name and expression) of the current definition reads empty right after. -/
def AddedFieldEmptyFull (alter : AStore → List Field → Option Nat → AStore) : Prop :=
  ∀ (a : AStore) (fields : List Field) (f : Field), f ∈ fields → f ∉ a.cfg.fields →
    ∀ row ∈ (alter a fields none).scan [f] true, row.cols.getD 0 none = none

private theorem not_full_of_witness {alter : AStore → List Field → Option Nat → AStore} {a : AStore}
    {fields : List Field} {f : Field} {v : Seq} {rest : List Sq} (hf : f ∈ fields) (hn : f ∉ a.cfg.fields)
    (hw : ((alter a fields none).scan [f] true).map (fun r => r.cols.getD 0 none) = some v :: rest) :
    ¬ AddedFieldEmptyFull alter := by
  intro h
  have hnone : ∀ c ∈ ((alter a fields none).scan [f] true).map (fun r => r.cols.getD 0 none), c = none := by
    intro c hc
    obtain ⟨r, hr, rfl⟩ := List.mem_map.1 hc
    exact h a fields f hf hn r hr
  rw [hw] at hnone
  cases hnone _ (List.mem_cons_self ..)

/-- D14b — `WAVG(b, a)` prints as `AVG(b)`: altering `x = AVG(b)` to `x = WAVG(b, a)` is "fields
    unchanged"; the new field shows the old AVG state (count 1, total 5). -/
def d14bStore : AStore := AStore.run default (wCfg [sumF "a", avgX]) none [wPt 1003 "k" [("a", 2), ("b", 5)]]

theorem d14b_witness :
    wavgX ∈ [pointsF, sumF "a", wavgX] ∧ wavgX ∉ d14bStore.cfg.fields ∧
    ((d14bStore.alter [pointsF, sumF "a", wavgX] none).scan [wavgX] true).map (fun r => r.cols.getD 0 none) =
      [some ⟨1010, [[.avg (some (1, 5))]]⟩] := by
  decide +kernel

theorem added_field_empty_full_false : ¬ AddedFieldEmptyFull AStore.alter :=
  not_full_of_witness d14b_witness.1 d14b_witness.2.1 d14b_witness.2.2

/-- D14a (code as found) — `b` removed while the memstore is empty (no rewrite: the file keeps
    column `b`), then re-added: the "added" field shows its old file data.  All identities here
    are injective, so this is not an identity collision; `AStore.alter` rewrites the file on every
    field update, and `added_field_empty` holds for it. -/
def d14aOps : List AOp :=
  [wPt 1003 "k" [("a", 1), ("b", 5)], .flush, .alter [pointsF, sumF "a"] none]

theorem d14a_witness :
    sumF "b" ∉ (AStore.runPre default (wCfg [sumF "a", sumF "b"]) none d14aOps).cfg.fields ∧
    (((AStore.runPre default (wCfg [sumF "a", sumF "b"]) none d14aOps).alterPre [pointsF, sumF "a", sumF "b"] none).scan
      [sumF "b"] true).map (fun r => r.cols.getD 0 none) = [some ⟨1010, [[.agg (some 5)]]⟩] ∧
    (((AStore.run default (wCfg [sumF "a", sumF "b"]) none d14aOps).alter [pointsF, sumF "a", sumF "b"] none).scan
      [sumF "b"] true).map (fun r => r.cols.getD 0 none) = [none] := by
  decide +kernel

theorem asfound_added_field_empty_false : ¬ AddedFieldEmptyFull AStore.alterPre :=
  not_full_of_witness (by decide) d14a_witness.1 d14a_witness.2.1

/-- A new WHERE is not retroactive: (1) what an alter stores (memstore, file, layouts, clock,
    header, definition) does not depend on the WHERE it carries; (2) an alter that changes only
    the WHERE leaves the store exactly as it was; (3) the WHERE is consulted only when a point is
    processed, with the table's WHERE at that moment: a point it rejects leaves everything
    unchanged, and after `alter … w` it is `w` that is evaluated on the point. -/
theorem new_where_not_retroactive (a : AStore) (fields : List Field) (w w' : Option Nat) :
    ((a.alter fields w).st = (a.alter fields w').st ∧ (a.alter fields w).header = (a.alter fields w').header ∧
      (a.alter fields w).cfg = (a.alter fields w').cfg) ∧
    ((a.alter a.cfg.fields w).st = a.st ∧ (a.alter a.cfg.fields w).header = a.header ∧
      (a.alter a.cfg.fields w).cfg = a.cfg) ∧
    (∀ p, a.whereOk p = false → a.ingest x p = (a, false)) ∧
    (∀ p, (a.alter fields w).whereOk p = (match w with | none => true | some c => p.conds.contains c)) := by
  refine ⟨?_, ?_, ?_, ?_⟩
  · unfold AStore.alter; split <;> exact ⟨rfl, rfl, rfl⟩
  · unfold AStore.alter; rw [fieldsSame_refl]; exact ⟨rfl, rfl, rfl⟩
  · intro p hp
    simp only [AStore.ingest, Store.ingest, hp]
    split <;> rfl
  · intro p
    have hw : (a.alter fields w).whereC = w := by unfold AStore.alter; split <;> rfl
    unfold AStore.whereOk
    rw [hw]
    cases w <;> rfl

/-- A scan — of any selection of fields, e.g. only a newly added one — hands out every
    memstore row that has no file row, whatever the file rows map (fix dd8e0db). -/
theorem scan_delivers_memstore_rows (cfg : TableCfg) (st : Store) (out : List Field) (m : Row)
    (hm : m ∈ st.mem) (hnf : ∀ r ∈ st.file.getD [], (r.key == m.key) = false) :
    ∃ row ∈ st.iterateC cfg out true, row.key = m.key := by
  refine ⟨{ key := m.key, cols := scanMemRow cfg (st.now - cfg.retention) out st.memFields m.cols }, ?_, rfl⟩
  simp only [Store.iterateC, if_true, List.mem_append, List.mem_map, List.mem_filter]
  refine .inr ⟨m, ⟨hm, ?_⟩, rfl⟩
  simp only [Bool.not_eq_true', List.any_eq_false]
  intro r hr
  simp [hnf r hr]

/-- The per-row scan these theorems are about is the scan of the shared store model
    (Model/Store.lean, tied to the code by the `store` and `alter` engines). -/
theorem scan_model_is_store_model (cfg : TableCfg) (st : Store) (out : List Field) (includeMem : Bool) :
    (st.iterate cfg out includeMem).rows = st.iterateC cfg out includeMem :=
  iterateC_eq_iterate cfg st out includeMem

/-- the scenario of D15/D17 (fixed in dd8e0db; the as-found behaviour is recorded by C17's
    `d15_blank_row_ends_solo_scan`): the file has no column `c` (the definition gained `c` while
    the database was down); a scan of `c` alone skips the file row of key `x` and delivers the
    memstore-only key `z` -/
def d17Store : Store :=
  { memFields := [pointsF, sumF "a", sumF "c"],
    mem := [{ key := [("d", "z")], cols := [some ⟨1020, [[.agg (some 1)]]⟩, some ⟨1020, [[.agg (some 3)]]⟩, some ⟨1020, [[.agg (some 7)]]⟩] }],
    fileFields := [some pointsF, some (sumF "a")],
    file := some [{ key := [("d", "x")], cols := [some ⟨1010, [[.agg (some 1)]]⟩, some ⟨1010, [[.agg (some 1)]]⟩] }],
    now := 1013 }

example : (d17Store.iterateC (wCfg [sumF "a", sumF "c"]) [sumF "c"] true).map (fun r => (r.key, r.cols)) =
    [([("d", "z")], [some ⟨1020, [[.agg (some 7)]]⟩])] := by
  decide +kernel

/-! ## Non-vacuity -/

/-- a permutation with an insertion and a deletion: in = [a, b, _points, ?], out = [_points, c, a] -/
example : outIdxsFor [pointsF, sumF "c", sumF "a"] [some (sumF "a"), some (sumF "b"), some pointsF, none] =
    [some 2, none, some 0, none] := by decide +kernel
example : IdNodup [pointsF, sumF "c", sumF "a"] := by
  unfold IdNodup; decide +kernel
/-- the printed-identity collision is real: the two fields differ but print alike -/
example : avgX ≠ wavgX ∧ avgX.same wavgX = true := by decide +kernel
example : ¬ IdNodup [avgX, wavgX] := by
  unfold IdNodup; decide +kernel

def exCfg : ColCfg := { e := .agg .sum (.field "a"), res := 10, retention := 30 }
def exOps : List AColOp :=
  [.base (.ingest 1003 { vals := [("a", 2)] }), .alterKeep true false, .base (.ingest 1001 { vals := [("a", 5)] }),
   .reopen true, .base (.ingest 1004 { vals := [("a", 1)] }), .alterKeep false false, .base (.flush false),
   .base (.ingest 1055 { vals := [("a", 9)] }), .alterKeep true true]

example : exCfg.e.valid = true ∧ exCfg.e.noPtile = true ∧ 0 < exCfg.res ∧ AOpsPos exOps := by
  refine ⟨by decide, by decide, by decide, ?_⟩
  simp [exOps, AOpsPos, OpsPos]
example : hwmOf default exCfg exOps = 1055 ∧ LiveH exCfg (hwmOf default exCfg exOps) 1060 := by
  refine ⟨by decide +kernel, by decide +kernel, ?_⟩
  have : hwmOf default exCfg exOps = 1055 := by decide +kernel
  rw [this]; decide
example : ((Col.arun default exCfg {} exOps).view exCfg true).at exCfg.e exCfg.res 1060 = [.agg (some 9)] ∧
    ((Col.arun default exCfg {} (eraseAlters exOps)).view exCfg true).at exCfg.e exCfg.res 1060 = [.agg (some 9)] := by
  decide +kernel
/-- after the restart the clock is zero: the point at 1004 is accepted although 1004 < 1055 − 30
    would later be expired; period 1010 = 2 + 5 + 1 before the clock moves to 1055 -/
example : rowsForA exCfg 1010 0 exOps = [{ vals := [("a", 2)] }, { vals := [("a", 5)] }, { vals := [("a", 1)] }] := by
  decide +kernel

/-- a store history with a permuting / extending / reducing alter and a restart -/
def exStoreOps : List AOp :=
  [wPt 1003 "k" [("a", 1), ("b", 5)], .alter [pointsF, sumF "b", sumF "c", sumF "a"] (some 0),
   .ingest { ts := 1004, dims := [("d", "k")], vals := [("a", [2]), ("c", [7])], conds := [0] },
   wPt 1005 "j" [("a", 9)], .reopen [pointsF, sumF "b", sumF "c", sumF "a"] (some 0), .alter [pointsF, sumF "a", sumF "b"] none]

/-- retained `a` and `b` keep their values across both alters and the restart, `c` was filled only
    by the point processed while it existed and is gone again; the point of key "j" was rejected
    by the WHERE in force when it arrived (condition 0 does not hold for it) -/
example : ((AStore.run default (wCfg [sumF "a", sumF "b"]) none exStoreOps).scan [pointsF, sumF "a", sumF "b"] true).map
    (fun r => (r.key, r.cols)) =
    [([("d", "k")], [some ⟨1010, [[.agg (some 2)]]⟩, some ⟨1010, [[.agg (some 3)]]⟩, some ⟨1010, [[.agg (some 5)]]⟩])] := by
  decide +kernel
/-- the executable simulation check (store model vs column model) holds along this history -/
example : (exStoreOps.foldl (fun (acc : AStore × List (Key × String)) op =>
    (acc.1.step default op, acc.2 ++ stepMismatches default acc.1 op))
    (AStore.init (wCfg [sumF "a", sumF "b"]) none, [])).2 = [] := by
  decide +kernel

end Zeno.C15
