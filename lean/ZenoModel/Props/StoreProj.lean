/-
StoreProj — the table-level model of the row store (`Model/Store.lean`), restricted to one
(group key, field index), is the one-column model (`Model/Column.lean`) run on the projected
script (`colOpsOf`, `Model/StoreColumn.lean`) — for every script, not only the generated ones on
which the driver evaluates `projectionMismatches`.  Composed with the column theorems this
lifts C01 / C03 / C14 to the table level: rows, keys, field fan-out, file and memstore lists
included.

Hypotheses (all decidable):
* `CfgWF cfg`: no two fields print alike (then `outIdxsFor fields (fields.map some)` is the
  identity), `0 < res`, `0 ≤ retention` (a point with several rows is one acceptance decision
  in the store but one `ColOp.ingest` per row in the column script, each re-checked against
  the clock the previous row advanced; with a negative retention the second row would be
  rejected by the column model — a real mismatch of `projectionMismatches`);
* `StorePos ops`: every point is stamped after Go's zero time (as `OpsPos` at column level).
  A point whose rounded timestamp is ≤ 0 is accepted but stores nothing (`Sq.updateValue`),
  which leaves a memstore row with an empty column; the store's raw pass-through test looks at
  the row, the column model's at the column.
-/
import ZenoModel.Lemmas.StoreProjSpec

namespace Zeno.StoreProj
open Zeno

variable (x : Ext)

/-- After any script, the scan of the store model at (key, field `i`) — column `i` of the
    scan's row with that key, `none` when there is no such row — is the view of the one-column
    model run on the projected script; with or without the memstore. -/
theorem store_projects_to_column (cfg : TableCfg) (wf : CfgWF cfg) (ops : List StoreOp)
    (hpos : StorePos ops) (key : Key) (i : Nat) (hi : i < cfg.fields.length) (includeMem : Bool) :
    (match ((runStore x cfg ops).iterate cfg cfg.fields includeMem).rows.find? (fun r => r.key == key) with
      | some r => r.cols.getD i none
      | none => none) =
    (Col.run x { e := (cfg.fields[i]).ex, res := cfg.res, retention := cfg.retention }
        (colOpsOf x cfg key (Store.init cfg) ops)).view
      { e := (cfg.fields[i]).ex, res := cfg.res, retention := cfg.retention } includeMem := by
  rw [← ccfgOf_eq cfg i hi]
  exact scanCol_run x cfg wf ops hpos key i hi includeMem

/-- the same with the reading of the scan named (`scanCol`) -/
theorem scanCol_projects (cfg : TableCfg) (wf : CfgWF cfg) (ops : List StoreOp)
    (hpos : StorePos ops) (key : Key) (i : Nat) (hi : i < cfg.fields.length) (includeMem : Bool) :
    scanCol cfg (runStore x cfg ops) includeMem key i =
      (Col.run x { e := (cfg.fields[i]).ex, res := cfg.res, retention := cfg.retention }
          (colOpsOf x cfg key (Store.init cfg) ops)).view
        { e := (cfg.fields[i]).ex, res := cfg.res, retention := cfg.retention } includeMem :=
  store_projects_to_column x cfg wf ops hpos key i hi includeMem

/-- `scanCol` is that reading of a scan -/
theorem scanCol_eq (cfg : TableCfg) (st : Store) (includeMem : Bool) (key : Key) (i : Nat) :
    scanCol cfg st includeMem key i =
      match (st.iterate cfg cfg.fields includeMem).rows.find? (fun r => r.key == key) with
      | some r => r.cols.getD i none
      | none => none := rfl

/-- the executable check the driver runs on generated cases can never fail -/
theorem projectionMismatches_nil (cfg : TableCfg) (wf : CfgWF cfg) (ops : List StoreOp)
    (hpos : StorePos ops) (includeMem : Bool) : projectionMismatches x cfg ops includeMem = [] := by
  unfold projectionMismatches
  simp only [List.flatMap_eq_nil_iff, List.filterMap_eq_nil_iff]
  intro key _ fi hfi
  obtain ⟨f, i⟩ := fi
  have hget : cfg.fields[i]? = some f := List.mem_zipIdx_iff_getElem?.mp hfi
  obtain ⟨hi, hf⟩ := List.getElem?_eq_some_iff.mp hget
  have := scanCol_projects x cfg wf ops hpos key i hi includeMem
  simp only [hf] at this
  show (if (_ == scanCol cfg (runStore x cfg ops) includeMem key i) = true then none else some (key, i)) = none
  rw [this]
  simp only [beq_self_eq_true, if_true]

/-- every store reachable by a script satisfies the structural invariant: row keys unique in
    memstore and file, every row as wide as the table, memstore rows without empty columns,
    field lists as configured -/
theorem reachable_store_wf (cfg : TableCfg) (wf : CfgWF cfg) (ops : List StoreOp) (hpos : StorePos ops) :
    StoreInv cfg (runStore x cfg ops) :=
  storeInv_run x cfg wf.res_pos ops hpos

/-- the store's clock is the column's clock, and both are the maximum timestamp of the points
    that passed the age check and WHERE -/
theorem clock_agrees (cfg : TableCfg) (wf : CfgWF cfg) (ops : List StoreOp) (hpos : StorePos ops)
    (key : Key) (i : Nat) (hi : i < cfg.fields.length) :
    (Col.run x (ccfgOf cfg i) (colOpsOf x cfg key (Store.init cfg) ops)).now = (runStore x cfg ops).now ∧
    (runStore x cfg ops).now = nowAfter cfg 0 ops :=
  ⟨(run_proj x cfg wf key i hi ops hpos).now, runStore_now x cfg ops⟩

/-! ### C01 at table level -/

/-- After any store script (points of any keys, array values, rejected points, flushes of either
    kind), a memstore-inclusive scan returns at (key, field `i`), for every period `T` that has
    not expired, exactly the accumulation — from the empty state, each row once, in arrival
    order — of the rows of the stored points of that key whose timestamp rounds up to `T`
    (`tableRowsFor`: defined on the raw points alone). -/
theorem table_ingest_refines_spec (cfg : TableCfg) (wf : CfgWF cfg) (ops : List StoreOp)
    (hpos : StorePos ops) (key : Key) (i : Nat) (hi : i < cfg.fields.length)
    (hv : (cfg.fields[i]).ex.valid = true) (hp : (cfg.fields[i]).ex.noPtile = true) (T : Int)
    (hgrid : T % cfg.res = 0) (hlive : T > (runStore x cfg ops).now - cfg.retention) (hT0 : 0 < T) :
    (scanCol cfg (runStore x cfg ops) true key i).at (cfg.fields[i]).ex cfg.res T =
      (cfg.fields[i]).ex.acc x (tableRowsFor cfg key T 0 ops) :=
  scanCol_at_eq_acc x cfg wf ops hpos key i hi hv hp T hgrid hlive hT0

/-- A point is counted for its own key, in the period its timestamp rounds up to, once per row,
    and nowhere else. -/
theorem table_counted_once (cfg : TableCfg) (key : Key) (T now : Int) (p : RawPoint) :
    tableRowsFor cfg key T now [.ingest p] =
      if ptStored cfg now p = true ∧ reslice cfg p.dims = key ∧ roundUp p.ts cfg.res = T
      then (pointRows p).map (mkPt p) else [] := by
  simp only [tableRowsFor, List.append_nil]
  by_cases h1 : ptStored cfg now p = true <;> by_cases h2 : reslice cfg p.dims = key <;>
    by_cases h3 : roundUp p.ts cfg.res = T <;> simp [h1, h2, h3]

/-! ### C03 at table level -/

/-- The clock does not depend on the flush schedule. -/
theorem table_clock_schedule_independent (cfg : TableCfg) (ops₁ ops₂ : List StoreOp)
    (hsame : eraseFlush ops₁ = eraseFlush ops₂) : (runStore x cfg ops₁).now = (runStore x cfg ops₂).now := by
  rw [runStore_now, runStore_now, ← nowAfter_eraseFlush cfg ops₁, ← nowAfter_eraseFlush cfg ops₂, hsame]

/-- Two store scripts that differ only in their flush operations (how many, where, sorted or
    not — hence also which of them are raw pass-through and which truncate) give the same
    memstore-inclusive scan at every (key, field) on every period that has not expired. -/
theorem table_view_schedule_independent (cfg : TableCfg) (wf : CfgWF cfg) (ops₁ ops₂ : List StoreOp)
    (h₁ : StorePos ops₁) (h₂ : StorePos ops₂) (hsame : eraseFlush ops₁ = eraseFlush ops₂)
    (key : Key) (i : Nat) (hi : i < cfg.fields.length)
    (hv : (cfg.fields[i]).ex.valid = true) (hp : (cfg.fields[i]).ex.noPtile = true) (T : Int)
    (hgrid : T % cfg.res = 0) (hlive : T > (runStore x cfg ops₁).now - cfg.retention) (hT0 : 0 < T) :
    (scanCol cfg (runStore x cfg ops₁) true key i).at (cfg.fields[i]).ex cfg.res T =
      (scanCol cfg (runStore x cfg ops₂) true key i).at (cfg.fields[i]).ex cfg.res T := by
  rw [table_ingest_refines_spec x cfg wf ops₁ h₁ key i hi hv hp T hgrid hlive hT0,
    table_ingest_refines_spec x cfg wf ops₂ h₂ key i hi hv hp T hgrid
      (by rw [← table_clock_schedule_independent x cfg ops₁ ops₂ hsame]; exact hlive) hT0,
    ← tableRowsFor_eraseFlush cfg key T ops₁, ← tableRowsFor_eraseFlush cfg key T ops₂, hsame]

/-- The projected column scripts of two store scripts that differ only in their flushes differ
    only in their `ColOp.flush` entries (the hypothesis of `C03.view_schedule_independent`). -/
theorem projection_differs_only_in_flushes (cfg : TableCfg) (ops₁ ops₂ : List StoreOp)
    (hsame : eraseFlush ops₁ = eraseFlush ops₂) (key : Key) :
    noFlush (colOpsOf x cfg key (Store.init cfg) ops₁) = noFlush (colOpsOf x cfg key (Store.init cfg) ops₂) := by
  rw [noFlush_colOpsOf, noFlush_colOpsOf, ← colOpsNF_eraseFlush cfg key ops₁,
    ← colOpsNF_eraseFlush cfg key ops₂, hsame]

/-- Right after a flush the memstore is empty: a disk-only scan and a memstore-inclusive scan
    are the same scan (all rows, all columns). -/
theorem table_disk_equals_mem_after_flush (cfg : TableCfg) (st : Store) (sorted : Bool)
    (hne : st.mem.isEmpty = false) (outFields : List Field) :
    (st.flush cfg sorted).iterate cfg outFields false = (st.flush cfg sorted).iterate cfg outFields true := by
  -- holds of an empty memstore too
  have _ := hne
  exact iterate_flush cfg st sorted outFields

/-! ### C14 at table level -/

/-- A point older than the retention period when it is processed leaves the whole store (every
    row, every column, file, clock) as it was, and is reported as skipped. -/
theorem table_old_point_not_stored (cfg : TableCfg) (st : Store) (p : RawPoint)
    (hold : p.ts < st.now - cfg.retention) : st.ingest x cfg p = (st, false) := by
  simp [Store.ingest, hold]

/-- The spec does not count a point older than the retention period, for any key and period. -/
theorem table_old_point_not_counted (cfg : TableCfg) (key : Key) (T now : Int) (p : RawPoint)
    (r : List StoreOp) (hold : p.ts < now - cfg.retention) :
    tableRowsFor cfg key T now (.ingest p :: r) = tableRowsFor cfg key T now r := by
  simp [tableRowsFor, ptStored, ptNow, hold]

/-- The store's clock never goes back. -/
theorem table_clock_monotone (cfg : TableCfg) (st : Store) (op : StoreOp) :
    st.now ≤ (storeStep x cfg st op).now := by
  cases op with
  | flush s => simp only [storeStep, flush_now]; exact Int.le_refl _
  | ingest p =>
    simp only [storeStep, ingest_now, ptNow]
    split
    · exact Int.le_refl _
    · split
      · exact Int.le_refl _
      · omega

/-- No resurrection at table level: a period that ended before the retention bound gets no rows
    from a point processed at that clock or any later one. -/
theorem table_no_resurrection (cfg : TableCfg) (hres : 0 < cfg.res) (key : Key) (T now now' : Int)
    (p : RawPoint) (hmono : now ≤ now') (hexp : T < now - cfg.retention) :
    tableRowsFor cfg key T now' [.ingest p] = [] := by
  simp only [tableRowsFor, List.append_nil]
  split
  · rename_i h
    simp only [Bool.and_eq_true, decide_eq_true_eq, ptStored, Bool.not_eq_true', decide_eq_false_iff_not] at h
    have := roundUp_ge (t := p.ts) hres
    omega
  · rfl

/-! ### Non-vacuity: a two-field table, two keys, an array value (two rows), a rejected point,
    a point of another key, a raw and a re-encoding flush -/

def exCfg : TableCfg :=
  { fields := [⟨"_points", .agg .sum (.field "_point")⟩, ⟨"a", .agg .sum (.field "a")⟩],
    res := 10, retention := 100, groupBy := none }
def k1 : Key := [("d", "1")]
def k2 : Key := [("d", "2")]
def exOps : List StoreOp :=
  [.ingest { ts := 1003, dims := k1, vals := [("a", [2])] },
   .flush false,
   .ingest { ts := 1001, dims := k1, vals := [("a", [5, 1])] },
   .ingest { ts := 1040, dims := k2, vals := [("a", [3])] },
   .ingest { ts := 3, dims := k1, vals := [("a", [9])] },
   .flush true,
   .ingest { ts := 1010, dims := k1, vals := [("a", [7])] }]
def exOps' : List StoreOp :=
  [.ingest { ts := 1003, dims := k1, vals := [("a", [2])] },
   .ingest { ts := 1001, dims := k1, vals := [("a", [5, 1])] },
   .flush true, .flush false,
   .ingest { ts := 1040, dims := k2, vals := [("a", [3])] },
   .ingest { ts := 3, dims := k1, vals := [("a", [9])] },
   .ingest { ts := 1010, dims := k1, vals := [("a", [7])] }]

example : CfgWF exCfg := by decide
example : StorePos exOps ∧ StorePos exOps' := by decide
example : eraseFlush exOps = eraseFlush exOps' := rfl
example : (exCfg.fields[1]).ex.valid = true ∧ (exCfg.fields[1]).ex.noPtile = true := by decide
/-- the array point contributes its main row and its extra row twice (known finding
    C01-array-double is part of `pointRows`) -/
example : (tableRowsFor exCfg k1 1010 0 exOps).length = 5 := by decide +kernel
example : (runStore default exCfg exOps).now = 1040 := by decide +kernel
example : (scanCol exCfg (runStore default exCfg exOps) true k1 1).at (exCfg.fields[1]).ex exCfg.res 1010 =
    [.agg (some 16)] := by decide +kernel
example : (scanCol exCfg (runStore default exCfg exOps') true k1 1).at (exCfg.fields[1]).ex exCfg.res 1010 =
    [.agg (some 16)] := by decide +kernel
example : projectionMismatches default exCfg exOps true = [] := by decide +kernel

/-! ### Sharpness: neither side condition can be dropped

(1) A point stamped at or before the zero time is accepted (it is inside the retention window)
but stores nothing, so its key has a memstore row with an empty column.  When the clock has
moved on, the next (raw) flush re-encodes that key's file row — the store tests the ROW — and
truncation drops it, while the column model — testing the COLUMN — passes the old series
through.  Only expired periods differ.  (`projectionMismatches` reports it since it iterates over
the keys of the script, not only over the keys still present in the store.)
(2) With a negative retention the second row of an array point is rejected by the column model
(its clock has already moved to the point's own timestamp) but stored by the store. -/

def oneField : List Field := [⟨"a", .agg .sum (.field "a")⟩]
def cfgZ : TableCfg := { fields := oneField, res := 10, retention := 100, groupBy := none }
def opsZ : List StoreOp :=
  [.ingest { ts := 50, dims := k1, vals := [("a", [1])] }, .flush false,
   .ingest { ts := -5, dims := k1, vals := [("a", [1])] },
   .ingest { ts := 200, dims := k2, vals := [("a", [1])] }, .flush false]

example : CfgWF cfgZ ∧ ¬ StorePos opsZ := by decide
example : scanCol cfgZ (runStore default cfgZ opsZ) true k1 0 = none ∧
    ((Col.run default (ccfgOf cfgZ 0) (colOpsOf default cfgZ k1 (Store.init cfgZ) opsZ)).view
      (ccfgOf cfgZ 0) true).isSome = true ∧
    projectionMismatches default cfgZ opsZ true = [(k1, 0)] := by decide +kernel

def cfgN : TableCfg := { fields := oneField, res := 10, retention := -5, groupBy := none }
def opsN : List StoreOp := [.ingest { ts := 500, dims := k1, vals := [("a", [1, 2])] }]

example : ¬ CfgWF cfgN ∧ StorePos opsN := by decide
example : projectionMismatches default cfgN opsN true = [(k1, 0)] := by decide +kernel

end Zeno.StoreProj
