/-
C02 — crash recovery applies every acknowledged insert exactly once.

Property theorems, the witness traces and non-vacuity examples (model: Model/Crash.lean, helper
lemmas: Lemmas/Crash.lean).
The model is the flush/offset/recovery protocol of one table (`Zeno.Crash.step`); a table's
content is the list of applications `(entry, i)` it reflects.  All statements quantify over
every event list (insert histories, flush schedules, crash points, any number of
crash/restart rounds) with no bound.

The property at full strength — for every reachable state, kill + restart + catch-up yields
exactly one application set per WAL entry — is false in the model of the code
(`recovered_exactly_once_false`, defect D12): a flush that starts between two
`rowStore.insert`s of one array-valued point persists the point's offset together with only
part of the point.  It is proved for every execution without such a flush
(`recovered_exactly_once_partial`), hence for all scalar-valued insert histories
(`recovered_exactly_once_scalar`).
-/
import ZenoModel.Lemmas.Crash
import ZenoModel.Generated.Facts

namespace Zeno.C02
open Zeno.Crash

/-- The empty directory satisfies the invariant. -/
theorem inv_init (src : Nat) : Inv (State.initCfg src src) := inv_initCfg src

/-- Every event of the protocol preserves the invariant `Inv`
    ((i) every file in the directory is complete and reflects exactly the applications of the WAL
    entries up to its offset, each once; (ii) file ++ memstore = the applications handed over so
    far, the memstore offset covering them; (iii) offset file ≤ memstore offset, and the entries
    between the newest file's offset and the offset file have no applications; (iv) newer files
    have later offsets; (v) the persisted offset is looked up under the source it is stored under)
    — as long as no flush starts in the middle of an entry (`stepA`). -/
theorem inv_step {s s' : State} {e : Event} (h : Inv s) (hs : stepA s e = some s') : Inv s' :=
  inv_stepA h hs

/-- Induction over unbounded executions, with any number of crashes and restarts. -/
theorem reachable_inv {s : State} (h : ReachableA s) : Inv s := reachableA_inv h

/-- The same, phrased over event lists. -/
theorem reachable_inv_run (src : Nat) (es : List Event) {s : State}
    (h : runA (State.initCfg src src) es = some s) : Inv s :=
  reachableA_inv (reachableA_runA (ReachableA.init src) es h)

/-- Only complete files ever appear in the table directory (rename happens after sync), so the
    "unreadable newest file → fall back to an older file" branch of `openRowStore` is never taken
    after a process kill. -/
theorem files_complete {s : State} (h : ReachableA s) : ∀ f ∈ s.files, f.complete = true :=
  fun f hf => ((reachableA_inv h).files_ok f hf).1

/-- C02 for every execution in which no flush starts between two `rowStore.insert`s of one
    entry: kill the process at any reachable state (inside an insert, a memstore update, any step
    of a flush, an offset-file write, an old-file removal, or while it is already down), restart,
    catch up — the table reflects exactly the applications of the WAL entries, none twice, every
    acknowledged one exactly once. -/
theorem recovered_exactly_once_partial {s : State} (h : ReachableA s) : RecoveredExactlyOnce s :=
  recovered_of_inv (reachableA_inv h)

/-- Scalar-valued insert histories never have a mid-entry flush: C02 holds for all of them,
    over the unrestricted step relation. -/
theorem recovered_exactly_once_scalar {s : State} (h : Reachable s) (hsc : Scalar s.wal) :
    RecoveredExactlyOnce s :=
  recovered_exactly_once_partial (reachable_scalar h hsc)

/-- `recover` is what the event sequence `crash; reopen; catchUp` does to a running process. -/
theorem recover_is_crash_reopen_catchUp {s : State} (hup : s.up = true) :
    run s [.crash, .reopen (readPos (crashF s)), .catchUp] = some (recover s) := by
  simp [run, step, hup, crashF, reopenF, recover]

/-- nothing is lost: every application of every acknowledged entry is in the recovered table -/
theorem acked_not_lost {s : State} (h : ReachableA s) :
    ∀ o ∈ s.acked, ∃ e ∈ s.wal, e.off = o ∧ ∀ a ∈ e.apps, a ∈ (recover s).content := by
  intro o ho
  obtain ⟨e, he, heo, hc⟩ := (recovered_exactly_once_partial h).2.2 o ho
  refine ⟨e, he, heo, ?_⟩
  intro a ha
  have := hc a ha
  exact List.count_pos_iff.mp (by omega)

/-- nothing is counted twice, and nothing is invented: whatever the recovered table reflects is
    an application of a WAL entry (acknowledged or in flight), reflected once -/
theorem no_double_count {s : State} (h : ReachableA s) (a : App) (ha : a ∈ (recover s).content) :
    (recover s).content.count a = 1 ∧ ∃ e ∈ s.wal, a ∈ e.apps := by
  obtain ⟨hc, h1, _⟩ := recovered_exactly_once_partial h
  have hpos : 0 < (recover s).content.count a := List.count_pos_iff.mpr ha
  refine ⟨by have := h1 a; omega, ?_⟩
  rw [hc] at ha
  exact mem_flat ha

/-- A clean `Close()` (final flush, then exit) followed by reopen is the special case with
    nothing in flight: the model can always perform it from an idle state, and the property holds
    for the closed directory. -/
theorem clean_close {s : State} (h : ReachableA s) (hup : s.up = true) (hph : s.phase = .idle)
    (hp : s.pend = 0) :
    ∃ s', runA s (closeEvents s) = some s' ∧ s'.up = false ∧ s'.wal = s.wal ∧ s'.acked = s.acked ∧
      RecoveredExactlyOnce s' := by
  obtain ⟨s', hr, h1, h2, h3⟩ := closeEvents_run hup hph hp
  exact ⟨s', hr, h1, h2, h3, recovered_exactly_once_partial (reachableA_runA h _ hr)⟩

/-! ### configuration independence: the source id under which offsets are stored and looked up -/

/-- Recovery does not depend on the database's configuration: the protocol model has exactly one
    configuration input, the pair (source the WAL reader tags entries with = key the offsets are
    stored under, key `CreateTable` looks the resume offset up under); whatever value that source
    has (0, `DBOpts.ID`, anything) C02 holds as long as both are the same — for every event list,
    any number of crashes. -/
theorem recovery_independent_of_db_id (src : Nat) (es : List Event) {s : State}
    (h : runA (State.initCfg src src) es = some s) : RecoveredExactlyOnce s :=
  recovered_exactly_once_partial (reachableA_runA (ReachableA.init src) es h)

/-- the configuration never changes, in particular not across crashes and restarts -/
theorem config_fixed {s s' : State} {e : Event} (hs : step s e = some s') :
    s'.tagSrc = s.tagSrc ∧ s'.lookSrc = s.lookSrc :=
  ⟨(step_src_wal hs).1, (step_src_wal hs).2.1⟩

/-- one scalar point, acknowledged, flushed; clean exit; restart; catch-up -/
def restartTrace : List Event :=
  [.reopen 0, .walAppend ⟨1, false, 1⟩, .walAck 1, .apply 1,
   .flushBegin, .tmpWritten, .tmpSynced, .renamed, .swapped, .crash, .reopen 0, .catchUp]

/-- `lookup source = store source` is exactly what exactly-once needs: for every pair of
    different sources (e.g. entries tagged 0, offset looked up under a non-zero `DBOpts.ID`) the
    plain flush / exit / restart execution is accepted by the protocol — the reader restarts at
    the beginning of the WAL — and the acknowledged, already flushed insert is counted twice. -/
theorem source_mismatch_double_counts (tag look : Nat) (hne : look ≠ tag) :
    ∃ s, run (State.initCfg tag look) restartTrace = some s ∧
      s.content = [(1, 0), (1, 0)] ∧ flat s.wal = [(1, 0)] ∧ s.content.count (1, 0) = 2 := by
  -- with mismatched sources a restart resumes at the beginning of the WAL
  have hre : ∀ s : State, s.up = false → s.lookSrc ≠ s.tagSrc →
      step s (.reopen 0) = some { reopenF s with rd := 0 } := by
    intro s hu hs
    simp only [step, hu, readPos, reopenF, if_neg hs]
    rfl
  let f : File := { apps := [(1, 0)], pos := 1, complete := true }
  refine ⟨{ wal := [⟨1, false, 1⟩], acked := [1], files := [f], offFile := 0, tagSrc := tag, lookSrc := look,
            up := true, cur := f, mem := [(1, 0)], memPos := 1, offChanged := true, rd := 1, pend := 0,
            phase := .idle, flushCount := 0 }, ?_, rfl, rfl, rfl⟩
  -- the two restarts are the only events that look at the sources; the rest of the trace is evaluated
  show (step _ (.reopen 0)).bind _ = _
  rw [hre _ rfl hne]
  refine (rfl : _ = (step _ (.reopen 0)).bind _).trans ?_
  rw [hre _ rfl hne]
  rfl

/-- Tie of the model's single configuration input to the code, regenerated from /repo on every
    run (tools/extract/walsource.go): the expression that tags a standalone table's WAL entries
    with their source (insert.go `processWALInserts`) and the key `CreateTable` looks the resume
    offset up under (table.go) are the same expression, and in between the tag travels unchanged
    (`read.source` → `insert.source` → `ms.offsetsBySource[insert.source]`).  So whatever the
    configuration evaluates that expression to, the model is instantiated with `tagSrc = lookSrc`
    and `recovery_independent_of_db_id` applies. -/
theorem wal_source_same_expression :
    Facts.walSource.tags = Facts.walSource.lookups ∧ Facts.walSource.tags.length = 1 ∧
    Facts.walSource.stores = ["insert.source"] ∧
    Facts.walSource.carries = ["insert:read.source", "skip:read.source"] := by decide +kernel

/-- the concrete instance of the seeded regression: entries tagged 0, lookup under ID 7 -/
theorem source_mismatch_witness :
    ∃ s, run (State.initCfg 0 7) restartTrace = some s ∧ s.rd = 1 ∧ s.memPos = 1 ∧
      s.content = [(1, 0), (1, 0)] ∧ flat s.wal = [(1, 0)] := by
  refine ⟨_, rfl, ?_, ?_, ?_, ?_⟩ <;> decide

/-- with matching sources the same execution resumes after the flushed entry -/
theorem source_match_resumes :
    ∃ s, runA (State.initCfg 7 7) [.reopen 0, .walAppend ⟨1, false, 1⟩, .walAck 1, .apply 1,
        .flushBegin, .tmpWritten, .tmpSynced, .renamed, .swapped, .crash, .reopen 1, .catchUp] = some s ∧
      s.content = [(1, 0)] := by
  refine ⟨_, rfl, ?_⟩; decide

/-! ### D12: the property is false at full strength -/

/-- one array-valued point (two `rowStore.insert`s), acknowledged; a flush lands after the first
    insert and completes; the process is killed -/
def d12Trace : List Event :=
  [.reopen 0, .walAppend ⟨1, false, 2⟩, .walAck 1, .apply 1,
   .flushBegin, .tmpWritten, .tmpSynced, .renamed, .swapped, .crash]

/-- The witness: the trace is accepted by the model of the code, the acknowledged entry has two
    applications, and after restart + catch-up only the first one is in the table. -/
theorem d12_witness :
    ∃ s, run State.init d12Trace = some s ∧ s.acked = [1] ∧ flat s.wal = [(1, 0), (1, 1)] ∧
      (recover s).content = [(1, 0)] ∧ (recover s).rd = 1 := by
  refine ⟨_, rfl, ?_, ?_, ?_, ?_⟩ <;> decide

/-- C02 at full strength (array-valued points included) does not hold for the code's protocol. -/
theorem recovered_exactly_once_false : ¬ ∀ s, Reachable s → RecoveredExactlyOnce s := by
  intro hall
  obtain ⟨s, hrun, _, hflat, hcont, _⟩ := d12_witness
  have hr : Reachable s := reachable_run (Reachable.init 0) _ hrun
  have := (hall s hr).1
  rw [hflat, hcont] at this
  exact absurd this (by decide)

/-- the violating execution is exactly the excluded kind: `runA` rejects it at the flush -/
theorem d12_trace_not_aligned : runA State.init d12Trace = none := by decide

/-! ### non-vacuity -/

/-- an execution with array-valued points, skips, a no-value point, two data flushes, an
    offset-only flush, a crash in the middle of a flush and a restart is accepted and aligned -/
def demoTrace : List Event :=
  [.reopen 0,
   .walAppend ⟨1, false, 3⟩, .walAck 1, .apply 1, .apply 1, .apply 1,
   .walAppend ⟨2, true, 1⟩, .walAck 2, .skip 2,
   .flushBegin, .tmpWritten, .tmpSynced, .renamed, .swapped,
   .walAppend ⟨3, true, 1⟩, .walAck 3, .skip 3, .offTmpWritten, .offRenamed,
   .walAppend ⟨4, false, 0⟩, .pass,
   .walAppend ⟨5, false, 1⟩, .walAck 5, .apply 5,
   .flushBegin, .tmpWritten, .tmpSynced, .crash,
   .reopen 3, .pass, .apply 5, .walAppend ⟨6, false, 2⟩, .apply 6,
   .catchUp, .flushBegin, .tmpWritten, .tmpSynced, .renamed, .swapped]

example : ∃ s, runA State.init demoTrace = some s ∧ ReachableA s ∧ ¬ Scalar s.wal ∧
    s.files.length = 2 ∧ s.offFile = 3 ∧ s.content = flat s.wal ∧
    s.content = [(1, 0), (1, 1), (1, 2), (5, 0), (6, 0), (6, 1)] := by
  have hrun : runA State.init demoTrace = some ((runA State.init demoTrace).getD State.init) := by decide
  refine ⟨_, hrun, reachableA_runA (ReachableA.init 0) demoTrace hrun, ?_, by decide⟩
  intro h
  exact absurd (h ⟨1, false, 3⟩ (by decide)) (by decide)

/-- the hypotheses of `clean_close` are satisfiable, with data still in the memstore -/
example : ∃ s, ReachableA s ∧ s.up = true ∧ s.phase = .idle ∧ s.pend = 0 ∧ s.mem ≠ [] :=
by
  have hrun : runA State.init [.reopen 0, .walAppend ⟨1, false, 1⟩, .walAck 1, .apply 1] =
      some ((runA State.init [.reopen 0, .walAppend ⟨1, false, 1⟩, .walAck 1, .apply 1]).getD State.init) := by decide
  exact ⟨_, reachableA_runA (ReachableA.init 0) _ hrun, by decide, by decide, by decide, by decide⟩

/-- Why `files_complete` matters: with an unreadable newest file (not producible by a process
    kill — disk corruption) the fallback of `openRowStore` combines an older file with a newer
    offset file and silently loses the entries in between. -/
example :
    let s : State := { wal := [⟨1, false, 1⟩, ⟨2, false, 1⟩, ⟨3, true, 1⟩],
                       files := [⟨[(1, 0), (2, 0)], 2, false⟩, ⟨[(1, 0)], 1, true⟩], offFile := 3 }
    (recover s).content = [(1, 0)] ∧ flat s.wal = [(1, 0), (2, 0)] := by decide

end Zeno.C02
