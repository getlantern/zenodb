/-
C01 — each ingested point is aggregated exactly once into the right group and period.

Stated for one column of the row store (one field of one group key; the fan-out of a
point to its key's row and to every field's column is the list plumbing of
`Model/Store.lean`, tied to the code by the `store` correspondence engine, which also
evaluates the table-level raw-point spec `specTable` of `Model/Spec.lean`).  A script
is any finite interleaving of: rows of accepted points of this key, accepted points of
other keys (they only move the virtual clock), rejected points, and flushes with or
without raw pass-through — no bound on its length.
-/
import ZenoModel.Lemmas.ColumnSpec

namespace Zeno.C01
open Zeno

variable (x : Ext)

/-- After any script, a memstore-inclusive scan returns, for every period `T` that has not
    expired, exactly the accumulation (from the empty state, each once, in arrival order) of
    the rows of accepted points whose timestamp rounds up to `T` — whatever flushes happened. -/
theorem ingest_refines_spec (cfg : ColCfg) (hv : cfg.e.valid = true) (hp : cfg.e.noPtile = true)
    (hres : 0 < cfg.res) (ops : List ColOp) (hpos : OpsPos ops) (T : Int)
    (hl : Live cfg (Col.run x cfg ops).now T) (hT0 : 0 < T) :
    ((Col.run x cfg ops).view cfg true).at cfg.e cfg.res T = cfg.e.acc x (rowsFor cfg T 0 ops) := by
  rw [view_eq_spec x cfg hv hp hres (colInv_run x cfg hv hp hres ops hpos) T hl hT0, spec_cells_eq_acc]

/-- The period that counts a point is the least multiple of the resolution that is ≥ its
    timestamp, and no other: the point's half-open period `(T − res, T]`. -/
theorem period_of_point {ts res T : Int} (h : 0 < res) (hT : T % res = 0) :
    (T - res < ts ∧ ts ≤ T) ↔ T = roundUp ts res := by
  have hge := roundUp_ge (t := ts) h
  have hlt := roundUp_lt (t := ts) h
  constructor
  · intro ⟨h1, h2⟩
    have := roundUp_least h hT h2
    have := le_of_grid_lt (emod_sub_of hT (roundUp_mod (t := ts) h)) (by omega)
    omega
  · intro hEq
    omega

theorem period_is_least {ts res m : Int} (h : 0 < res) (hm : m % res = 0) (hge : ts ≤ m) :
    roundUp ts res ≤ m ∧ ts ≤ roundUp ts res ∧ roundUp ts res % res = 0 :=
  ⟨roundUp_least h hm hge, roundUp_ge h, roundUp_mod h⟩

/-- A row is counted in the period its timestamp rounds up to and in no other period
    (`rowsFor` of any other period does not contain it). -/
theorem counted_once (cfg : ColCfg) (now ts : Int) (pt : Pt) (T : Int) :
    rowsFor cfg T now [.ingest ts pt] =
      if accepted cfg now ts ∧ roundUp ts cfg.res = T then [pt] else [] := by
  simp only [rowsFor]
  by_cases ha : accepted cfg now ts = true <;> by_cases hT : roundUp ts cfg.res = T <;> simp [ha, hT]

/-- The virtual clock of the column equals the spec's: the maximum timestamp of the accepted
    points so far. -/
theorem clock_agrees (cfg : ColCfg) (hv : cfg.e.valid = true) (hp : cfg.e.noPtile = true)
    (hres : 0 < cfg.res) (ops : List ColOp) (hpos : OpsPos ops) :
    (Col.run x cfg ops).now = (ColSpec.run x cfg ops).now :=
  (colInv_run x cfg hv hp hres ops hpos).now_eq

/-- `_points = SUM(_point)` with `_point = 1` on every row: each row adds one. -/
theorem points_step (c : Option Rat) :
    (Ex.agg .sum (.field "_point")).upd x [.agg c] { vals := [("_point", 1)] } =
      [.agg (some (c.getD 0 + 1))] := by
  cases c <;> simp [Ex.upd, Ex.update, Pt.get, aggUpdate, Gen.agg_SUM_update]

/-- The accumulated `_points` state of a period is the number of its rows. -/
theorem points_counts_rows (n : Nat) :
    (Ex.agg .sum (.field "_point")).acc x (List.replicate (n + 1) { vals := [("_point", 1)] }) =
      [.agg (some ((n : Rat) + 1))] := by
  induction n with
  | zero =>
    simp only [Ex.acc, List.replicate, List.foldl, Ex.empty]
    rw [points_step]; simp
  | succ n ih =>
    rw [List.replicate_succ', Ex.acc, List.foldl_append]
    unfold Ex.acc at ih
    rw [ih]
    simp only [List.foldl]
    rw [points_step]
    simp

/-! Non-vacuity: a concrete script with out-of-order points, another key's point, a rejected
    point and two kinds of flush meets every hypothesis. -/

def exCfg : ColCfg := { e := .agg .sum (.field "a"), res := 10, retention := 100 }
def exOps : List ColOp :=
  [.ingest 1003 { vals := [("a", 2)] }, .flush false, .ingest 1001 { vals := [("a", 5)] },
   .tick 1040, .ingest 995 { vals := [("a", 1)] }, .flush true, .late 3, .ingest 1010 { vals := [("a", 7)] }]

example : exCfg.e.valid = true ∧ exCfg.e.noPtile = true ∧ 0 < exCfg.res ∧ OpsPos exOps := by
  refine ⟨by decide, by decide, by decide, ?_⟩
  simp [exOps, OpsPos]
example : rowsFor exCfg 1010 0 exOps = [{ vals := [("a", 2)] }, { vals := [("a", 5)] }, { vals := [("a", 7)] }] := by
  decide +kernel
example : ((Col.run default exCfg exOps).view exCfg true).at exCfg.e exCfg.res 1010 = [.agg (some 14)] := by
  decide +kernel

end Zeno.C01
