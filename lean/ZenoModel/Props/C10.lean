/-
C10 — a partitioned cluster answers every query like a standalone database: the ROUTING part.

C10 is a composition: (1) routing — every accepted point is applied by exactly one partition
of each table, whatever the table's partition keys, the number of partitions or of leaders
(this file, over Model/Route.lean, hash uninterpreted); (2) replication — every follower of
partition p holds exactly the points routed to p, each once (Props/C12.lean over
Model/Repl.lean); (3) the cluster plan over a partition-respecting split equals the local plan
(C11, Props/C11.lean).  The end-to-end composition on the real code is the `cluster` engine
(mode `equiv`): real leaders and followers vs a standalone database.

What the theorems say (for every hash function `h`, every key list, every `N ≥ 1`):
* `route_total_unique` / `route_lt`: `partitionFor` maps each point to exactly one `p < N`.
* `leader_follower_agree`: the leader's per-(keys, table) decision and the follower's re-check
  are the same function of the point; `applied_iff` spells it out: applied on follower of
  partition `p` iff `partitionFor (sorted T.keys) = p ∧ where_T`.
* `forwarded_other_table_filtered`: an entry forwarded because ANOTHER table wanted it is
  dropped by the re-check of a table that does not.
* `partitions_cover_standalone`, `partitions_disjoint`, `each_point_exactly_one_partition`:
  over any point list, the per-partition application sets of a table are pairwise disjoint and
  their union is the standalone table's application set; per point, the number of partitions
  applying it is 1 if the WHERE passes and 0 otherwise (so a union of per-partition results —
  C11 — sees every point exactly once).
* what must not change: `key_order_matters` (hashing the keys in a different order on the two
  sides sends points elsewhere — both sides sort), `signed_mod_escapes` (a remainder of a signed
  32-bit value leaves `0..N-1`), `all_keys_missing_hash_nothing` / `no_keys_hash_all_dims`
  (a table whose partition keys are all absent from a point hashes the EMPTY input, it does
  not fall back to all dims).
-/
import ZenoModel.Model.Route

namespace Zeno.C10

variable (h : List (String × String) → Nat)

theorem route_lt (keys : List String) (dims : Dims) (N : Nat) (hN : 0 < N) :
    partitionFor h keys dims N < N := by
  unfold partitionFor
  exact Nat.mod_lt _ hN

/-- every point maps to exactly one partition `p < N` -/
theorem route_total_unique (keys : List String) (dims : Dims) (N : Nat) (hN : 0 < N) :
    ∃ p, (p < N ∧ inPartition h keys dims N p = true) ∧
      ∀ q, (q < N ∧ inPartition h keys dims N q = true) → q = p := by
  refine ⟨partitionFor h keys dims N, ⟨route_lt h keys dims N hN, by simp [inPartition]⟩, ?_⟩
  intro q hq
  have := hq.2
  simp [inPartition] at this
  exact this.symm

/-- leader-side decision and follower-side re-check are the same function -/
theorem leader_follower_agree (T : TableRoute) (N : Nat) (dims : Dims) (p : Nat) :
    leaderWants h T N dims p = followerKeeps h T N dims p := rfl

/-- a point is applied to table `T` on a follower of partition `p` iff it routes to `p` under
    `T`'s (sorted) keys and passes `T`'s WHERE -/
theorem applied_iff (T : TableRoute) (N : Nat) (dims : Dims) (p : Nat) :
    followerKeeps h T N dims p = true ↔
      partitionFor h (sortKeys T.keys) dims N = p ∧ T.whereOk dims = true := by
  simp [followerKeeps, inPartition]

/-- an entry forwarded to the follower because another table wanted it is filtered out by the
    re-check of a table that does not want it -/
theorem forwarded_other_table_filtered (Ts : List TableRoute) (T T' : TableRoute) (N : Nat)
    (dims : Dims) (p : Nat) (_hT' : T' ∈ Ts) (_hw' : leaderWants h T' N dims p = true)
    (hw : leaderWants h T N dims p = false) :
    forwarded h Ts N dims p = true ∧ followerKeeps h T N dims p = false := by
  refine ⟨?_, by rw [← leader_follower_agree]; exact hw⟩
  simp only [forwarded, List.any_eq_true]
  exact ⟨T', _hT', _hw'⟩

/-- nothing reaches a table that no table's leader-side decision asked for -/
theorem kept_implies_forwarded (Ts : List TableRoute) (T : TableRoute) (N : Nat) (dims : Dims) (p : Nat)
    (hT : T ∈ Ts) (hk : followerKeeps h T N dims p = true) : forwarded h Ts N dims p = true := by
  simp only [forwarded, List.any_eq_true]
  exact ⟨T, hT, by rw [leader_follower_agree]; exact hk⟩

/-- application set of table `T` on partition `p` over a list of points -/
def appliedOn (T : TableRoute) (N : Nat) (pts : List Dims) (p : Nat) : List Dims :=
  pts.filter (fun d => followerKeeps h T N d p)

/-- application set of the standalone table -/
def appliedStandalone (T : TableRoute) (pts : List Dims) : List Dims :=
  pts.filter (fun d => standaloneKeeps T d)

/-- union over the partitions = the standalone table's application set -/
theorem partitions_cover_standalone (T : TableRoute) (N : Nat) (hN : 0 < N) (pts : List Dims) (d : Dims) :
    d ∈ appliedStandalone T pts ↔ ∃ p, p < N ∧ d ∈ appliedOn h T N pts p := by
  simp only [appliedStandalone, appliedOn, List.mem_filter, standaloneKeeps, followerKeeps, inPartition,
    Bool.and_eq_true, beq_iff_eq]
  constructor
  · intro ⟨hm, hw⟩
    exact ⟨partitionFor h (sortKeys T.keys) d N, route_lt h _ _ _ hN, hm, rfl, hw⟩
  · intro ⟨p, _, hm, _, hw⟩
    exact ⟨hm, hw⟩

/-- the per-partition application sets are pairwise disjoint -/
theorem partitions_disjoint (T : TableRoute) (N : Nat) (pts : List Dims) (p q : Nat) (hpq : p ≠ q)
    (d : Dims) (hd : d ∈ appliedOn h T N pts p) : d ∉ appliedOn h T N pts q := by
  simp only [appliedOn, List.mem_filter, followerKeeps, inPartition, Bool.and_eq_true, beq_iff_eq] at hd ⊢
  intro hq
  exact hpq (hd.2.1.symm.trans hq.2.1)

private theorem countP_range_eq (c N : Nat) (hc : c < N) :
    (List.range N).countP (fun p => c == p) = 1 := by
  have := (List.nodup_range (n := N)).count (a := c)
  rw [if_pos (List.mem_range.mpr hc), List.count_eq_countP] at this
  rw [← this]
  exact List.countP_congr fun p _ => by rw [beq_iff_eq, beq_iff_eq, eq_comm]

/-- per point: the number of partitions that apply it to `T` is 1 if `T`'s WHERE passes, else 0 -/
theorem each_point_exactly_one_partition (T : TableRoute) (N : Nat) (hN : 0 < N) (d : Dims) :
    (List.range N).countP (fun p => followerKeeps h T N d p) = if T.whereOk d then 1 else 0 := by
  by_cases hw : T.whereOk d = true
  · have := countP_range_eq (partitionFor h (sortKeys T.keys) d N) N (route_lt h _ _ _ hN)
    simp only [followerKeeps, inPartition, hw, Bool.and_true, if_true]
    exact this
  · simp only [Bool.not_eq_true] at hw
    simp [followerKeeps, hw]

private theorem sum_map_add_ite {α : Type} (f : α → Nat) (r : α → Bool) (L : List α) :
    (L.map (fun p => f p + if r p then 1 else 0)).sum = (L.map f).sum + L.countP r := by
  induction L with
  | nil => rfl
  | cons p ps ih =>
    simp only [List.map_cons, List.sum_cons, List.countP_cons, ih]
    omega

/-- sizes add up: the standalone table applies as many points as all partitions together -/
theorem partition_sizes_add_up (T : TableRoute) (N : Nat) (hN : 0 < N) (pts : List Dims) :
    ((List.range N).map (fun p => (appliedOn h T N pts p).length)).sum = (appliedStandalone T pts).length := by
  -- point by point: each adds one to exactly one partition's count iff it adds one to the table's
  simp only [appliedOn, appliedStandalone, ← List.countP_eq_length_filter]
  induction pts with
  | nil => simp [List.map_const', List.sum_replicate_nat]
  | cons d ds ih =>
    simp only [List.countP_cons, sum_map_add_ite, ih, each_point_exactly_one_partition h T N hN d,
      standaloneKeeps]

/-- a table whose partition keys are all absent from the point hashes the EMPTY input … -/
theorem all_keys_missing_hash_nothing (keys : List String) (dims : Dims) (hne : keys ≠ [])
    (hmiss : ∀ k ∈ keys, dimBytes dims k = "") : hashInput keys dims = [] := by
  unfold hashInput
  have : keys.isEmpty = false := by cases keys <;> simp_all
  simp only [this, Bool.false_eq_true, if_false]
  rw [List.filterMap_eq_nil_iff]
  intro k hk
  simp [hmiss k hk]

/-- … while a table without partition keys hashes all dims -/
theorem no_keys_hash_all_dims (dims : Dims) : hashInput [] dims = dims := by
  simp [hashInput]

/-! ## what must not change -/

/-- a hash that looks at the first value only -/
def firstValLen : List (String × String) → Nat
  | [] => 0
  | (_, v) :: _ => v.length

/-- hashing the keys in a different order on the two sides routes a point to different
    partitions: the leader and the follower must agree on the order (both sort) -/
theorem key_order_matters :
    partitionFor firstValLen ["d", "g"] [("d", "x"), ("g", "12")] 2 ≠
    partitionFor firstValLen ["g", "d"] [("d", "x"), ("g", "12")] 2 := by decide +kernel

/-- the remainder of a signed 32-bit hash value can be negative: not a partition number -/
theorem signed_mod_escapes : partitionForSigned (-7) 3 = -1 ∧ ¬ (0 ≤ partitionForSigned (-7) 3) := by
  decide

/-! ## non-vacuity -/

example : sortKeys ["g", "d", "n"] = ["d", "g", "n"] := by decide +kernel
example : hashInput ["d", "zz", "g"] [("d", "x"), ("g", "1"), ("n", "2")] = [("d", "x"), ("g", "1")] := by decide +kernel
example : hashInput ["zz"] [("d", "x")] = [] := by decide +kernel
example : partitionFor firstValLen ["g"] [("d", "x"), ("g", "12")] 3 = 2 := by decide +kernel
example : (List.range 3).countP (fun p => followerKeeps firstValLen ⟨["g"], fun _ => true⟩ 3 [("g", "12")] p) = 1 := by decide +kernel
example : appliedOn firstValLen ⟨["g"], fun _ => true⟩ 2 [[("g", "1")], [("g", "12")], [("g", "123")]] 1
    = [[("g", "1")], [("g", "123")]] := by decide +kernel

end Zeno.C10
