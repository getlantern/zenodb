/-
C20 — data crossing the RPC boundary keeps its meaning.

Property theorems only (model: Model/Codec.lean, helper lemmas: Lemmas/Codec.lean).

Part 1 quantifies over EVERY Go-level expression object `g` whose closure fields hold what
the registries hold under its name (`GEx.linked`: all objects the constructors build):
decoding the encoding succeeds and returns an object no observer can tell from `g`.
Part 2 is `decide` over tables regenerated from /repo by tools/extract/codec.go on every
run (`Facts.codec*`): the model's wire format is the one the source declares, every field
the wire drops is restored by the type's decoder or classified by hand as unobserved, ext
ids do not collide, custom encoders and decoders agree on field order.  A new registered
type, a new unexported field, a decoder that stops assigning a field, or a changed ext id
re-opens these obligations.
Part 3 is about streams: a small heap model of "Marshal hands a buffer to the transport,
the transport writes it out later"; the regenerated facts about rpc.Codec's Marshal and
Unmarshal (no pooled / package-level / per-codec buffer reachable, result freshly allocated)
select the buffer policy, and under it every message of a stream arrives as sent.
Part 4 is about the boundary between "empty" and "absent": the regenerated msgpack struct
tags of everything that crosses the boundary and the regenerated list of tests by which the
receiving code tells message kinds apart select the tag table of the message model; under it
a RemoteQueryResult comes back exactly (nil-ness included) and the kind the leader infers is
the kind the follower sent.
-/
import ZenoModel.Lemmas.Codec
import ZenoModel.Generated.Facts

namespace Zeno.C20
open Zeno

/-! ## Part 1 — round trip -/

/-- What exactly comes back: the same object, every closure slot restored, every stored
    width and the embedded ptile intact, with `binaryExpr.DeAggregated` reset to false. -/
theorem dec_enc_exact (g : GEx) (h : g.linked = true) : dec (enc g) = some g.clearDeAgg := by
  simp [dec, decVal_enc g h]

/-- Encoding then decoding any constructor-built expression succeeds, and the result is
    observationally equal to the original: same `String()` under every formatting of the
    scalars, same `EncodedWidth()`, same behavioural model (`toEx`) for both views. -/
theorem dec_enc (g : GEx) (h : g.linked = true) :
    ∃ g', dec (enc g) = some g' ∧ ObsEq g' g :=
  ⟨g.clearDeAgg, dec_enc_exact g h, obsEq_clearDeAgg g⟩

/-- A second hop (follower → leader → client) is the identity. -/
theorem second_hop_identity (g g' : GEx) (h : g.linked = true) (h1 : dec (enc g) = some g') :
    dec (enc g') = some g' := by
  rw [dec_enc_exact g h] at h1
  cases h1
  rw [dec_enc_exact _ (linked_clearDeAgg g h), clearDeAgg_idem]

private theorem obsEq_of_dec_enc {g g' : GEx} (h : g.linked = true) (h1 : dec (enc g) = some g') :
    ObsEq g' g := by
  rw [dec_enc_exact g h] at h1
  cases h1
  exact obsEq_clearDeAgg g

/-- `Update` after the round trip: same new cells, remaining cells, value and `updated`, on
    every state and point (also: both have a behavioural model or neither has). -/
theorem update_preserved (g g' : GEx) (h : g.linked = true) (h1 : dec (enc g) = some g')
    (cfg : Int → Int → Int → Int → Nat) (x : Ext) (cs : List Cell) (p : Pt) :
    (g'.toEx cfg false).map (fun e => e.update x cs p) = (g.toEx cfg false).map (fun e => e.update x cs p) := by
  rw [(obsEq_of_dec_enc h h1).2.2]

/-- `Merge` after the round trip. -/
theorem merge_preserved (g g' : GEx) (h : g.linked = true) (h1 : dec (enc g) = some g')
    (cfg : Int → Int → Int → Int → Nat) (xs ys : List Cell) :
    (g'.toEx cfg false).map (fun e => e.merge xs ys) = (g.toEx cfg false).map (fun e => e.merge xs ys) := by
  rw [(obsEq_of_dec_enc h h1).2.2]

/-- `Get` after the round trip (for `ptileOptimized`: read through the outer percentile). -/
theorem get_preserved (g g' : GEx) (h : g.linked = true) (h1 : dec (enc g) = some g')
    (cfg : Int → Int → Int → Int → Nat) (x : Ext) (cs : List Cell) :
    (g'.toEx cfg true).map (fun e => e.get x cs) = (g.toEx cfg true).map (fun e => e.get x cs) := by
  rw [(obsEq_of_dec_enc h h1).2.2]

/-- `Shift()`, `IsConstant()`, `EncodedWidth()` and `String()` after the round trip. -/
theorem shape_preserved (g g' : GEx) (h : g.linked = true) (h1 : dec (enc g) = some g')
    (cfg : Int → Int → Int → Int → Nat) (x : Fmt) :
    (g'.toEx cfg false).map Ex.shiftOf = (g.toEx cfg false).map Ex.shiftOf ∧
    (g'.toEx cfg false).map Ex.isConstant = (g.toEx cfg false).map Ex.isConstant ∧
    g'.encodedWidth = g.encodedWidth ∧ g'.str x = g.str x := by
  obtain ⟨hstr, hw, hex⟩ := obsEq_of_dec_enc h h1
  rw [hex]
  exact ⟨rfl, rfl, hw, hstr x⟩

/-! ## Part 2 — the model's tables are the source's (regenerated facts, `decide`) -/

/-- the regenerated record of a registered expression type -/
def factFor (n : String) : Option Facts.CodecType :=
  Facts.codecTypes.find? (fun t => t.pkg == "expr" && t.name == n)

/-- The registered types, ids and Go type names are exactly the eleven the model has a
    constructor for (a type registered anywhere in the repository shows up here). -/
theorem facts_match_model :
    Facts.codecTypes.map (fun t => (t.extId, t.pkg, t.name)) =
      [(50, "expr", "field"), (51, "expr", "constant"), (52, "expr", "bounded"), (53, "expr", "aggregate"),
       (54, "expr", "ifExpr"), (55, "expr", "avg"), (56, "expr", "binaryExpr"), (57, "expr", "shift"),
       (58, "expr", "unaryMathExpr"), (59, "expr", "ptile"), (60, "expr", "ptileOptimized")] := by
  decide +kernel

/-- Does the encoding of `g` have the shape the regenerated record of its type prescribes:
    the registered ext id, and as body either the map whose keys are the fields reflection
    writes (exported + anonymous, declaration order) or, for a custom encoder, as many
    values as it passes to `enc.Encode`? -/
def encShapeOk (g : GEx) : Bool :=
  match factFor g.tyName, enc g with
  | some t, .ext id b =>
      id == t.extId && g.extId == t.extId &&
      (if t.customEnc then b.keys.isEmpty && b.arity == t.encFields.length
       else b.keys == t.wireFields && b.arity == 0)
  | _, _ => false

/-- `enc` writes, for every object, the ext id the source registers for its type and
    exactly the fields the source says are written. -/
theorem enc_follows_facts (g : GEx) : encShapeOk g = true := by
  cases g <;> rfl

/-- May the decoder of `t` leave field `f` alone? -/
def restoredOrIgnorable (t : Facts.CodecType) (f : String) : Bool :=
  (t.customDec && t.decAssigned.contains f) ||
  codecIgnorable.any (fun r => r.1 == t.name && r.2.1 == f)

/-- Every field the wire does not carry (every unexported field of every registered type)
    is assigned by the type's custom decoder, or is listed by hand as read by no observer;
    and a custom decoder assigns every exported field as well (it replaces reflection
    entirely) unless listed.  A new unexported field falsifies this until classified. -/
theorem facts_cover :
    Facts.codecTypes.all (fun t =>
      t.unexported.all (restoredOrIgnorable t) &&
      (!t.customDec || t.exported.all (restoredOrIgnorable t))) = true := by
  decide +kernel

/-- The hand-written exemption list is not wider than needed: each entry names an existing
    field that its decoder indeed does not assign. -/
theorem ignorable_is_minimal :
    codecIgnorable.all (fun r =>
      Facts.codecTypes.any (fun t => t.name == r.1 && (t.exported ++ t.unexported).contains r.2.1 &&
        !(t.decAssigned.contains r.2.1))) = true := by
  decide +kernel

/-- Ext ids are pairwise distinct and fit msgpack's int8 id. -/
theorem ext_ids_distinct :
    (Facts.codecTypes.map (·.extId)).Nodup ∧ Facts.codecTypes.all (fun t => t.extId < 128) = true := by
  decide +kernel

/-- A type with a custom encoder also has a custom decoder; both handle the same fields in
    the same order, and these are all the fields of the struct.  A type without a custom
    encoder has nothing the custom decoder would read positionally. -/
theorem custom_codecs_symmetric :
    Facts.codecTypes.all (fun t =>
      if t.customEnc then
        t.customDec && t.encFields == t.decPositional &&
        (t.exported ++ t.unexported).all (t.encFields.contains ·)
      else t.decPositional.isEmpty) = true := by
  decide +kernel

/-- No custom encoder hands an interface-typed field directly to the variadic
    `enc.Encode(…)`: that entry point calls a nested CustomEncoder's `EncodeMsgpack` itself
    and omits the ext header, which is why BOUNDED directly around BOUNDED used to lose its
    outer bounds and desynchronise the rest of the message (fixed in expr/bounded.go; the
    model's `enc` always writes the header). -/
theorem custom_encoders_keep_ext_header :
    Facts.codecTypes.all (fun t => t.encDirectIface.isEmpty) = true := by
  decide +kernel

/-- The closure registries the decoders restore from have exactly the keys the model's
    `aggregateFor` / `binaryExprFor` / `unaryMathFn` know. -/
theorem registries_match :
    Facts.codecAggNames = aggNames ∧ Facts.codecBinOps = binOps ∧ Facts.codecUnaryFns = unaryFns := by
  decide +kernel

/-- Message structs (rpc.Insert/Query/Point/RemoteQueryResult/…, core.Field, core.FlatRow,
    common.Follow/QueryMetaData/QueryStats, found from rpc/rpc.go) travel by reflection: all
    their data is in exported fields, except the fields listed by hand with the reason. -/
theorem msg_fields_cover :
    Facts.codecMsgTypes.all (fun t =>
      t.unexported.all (fun f => codecMsgIgnorable.any (fun r => r.1 == t.name && r.2.1 == f))) = true ∧
    (["Insert", "Query", "Point", "RemoteQueryResult", "Field", "FlatRow", "QueryMetaData"].all
      (fun n => Facts.codecMsgTypes.any (·.name == n))) = true := by
  decide +kernel

/-- `SUM(a) / IF(c0, AVG(BOUNDED(b,0,10)))`, shifted and logged: built by the constructors -/
def exG : GEx :=
  .unary "LN" (some "LN")
    (.shift
      (.bin "/" (.agg "SUM" (.field "a") (some "SUM") (some "SUM"))
        (.ifE 0 (.avg (.bounded (.field "b") 0 10) (.const 1)) 17) false (some "/"))
      (-1000000000) 26) 26

/-- `PERCENTILE(PERCENTILE(a+b, 99, 0, 100, 1), 50)` -/
def exP : GEx :=
  let pt : GEx := .ptile (.bounded (.bin "+" (.field "a") (.field "b") true (some "+")) 0 100) (.const 99) 0 1000 1 1 808
  .ptileOpt pt pt (.const 50)

example : exG.linked = true ∧ exP.linked = true := by decide
example : dec (enc exG) = some exG := by decide +kernel
example : dec (enc exP) = some exP.clearDeAgg ∧ exP.clearDeAgg ≠ exP := by decide +kernel
example : exG.toEx (fun _ _ _ _ => 0) false =
    some (.unary 0 (.shift (.bin .div (.agg .sum (.field "a"))
      (.ifE 0 (.avg (.bounded (.field "b") 0 10) (.const 1)))) (-1000000000))) := by decide +kernel
example : (exP.toEx (fun _ _ _ _ => 7) true).isSome = true ∧
    exP.toEx (fun _ _ _ _ => 7) true ≠ exP.toEx (fun _ _ _ _ => 7) false := by decide +kernel

/-- BOUNDED directly around BOUNDED (what `PERCENTILE(BOUNDED(x,…),…)` builds) keeps both
    pairs of bounds. -/
example : dec (enc (.bounded (.bounded (.field "a") 1 9) 0 100)) =
    some (.bounded (.bounded (.field "a") 1 9) 0 100) := by decide +kernel

/-- The slots matter: an aggregate whose `merge` closure is nil has no behaviour, and the
    decoder does NOT reproduce it (it restores the registry's closure) — so a decoder that
    forgot `e.merge = e2.merge` would return exactly such an object and `dec_enc` would fail. -/
example :
    let bad : GEx := .agg "SUM" (.field "a") (some "SUM") none
    bad.linked = false ∧ bad.toEx (fun _ _ _ _ => 0) false = none ∧
    dec (enc bad) = some (.agg "SUM" (.field "a") (some "SUM") (some "SUM")) := by decide +kernel

/-- Unknown registry names are refused (`Unknown aggregate`), unknown ext ids too. -/
example : dec (enc (.agg "MEDIAN" (.field "a") none none)) = none ∧
    dec (.ext 61 .mnil) = none := by decide +kernel

/-! ## Part 3 — streams: the bytes handed to the transport stay the sender's message -/

/-- Which buffer discipline the source has, as far as the regenerated facts can tell:
    `Marshal` and `Unmarshal` of `rpc.Codec` (and every package-local function they call)
    reference no package-level variable, no receiver field and no `sync.Pool`, what
    `Marshal` returns is syntactically the result of an allocating library call, and
    `Unmarshal` only forwards its input to the library (no local code keeps the receive
    buffer). -/
def policyOfFacts : BufPolicy :=
  if Facts.codecFns.all (fun f => f.pkgVars.isEmpty && f.recvFields.isEmpty && !f.mentionsPool) &&
     Facts.codecFns.any (fun f => f.name == "Marshal" && f.returnsFresh) &&
     Facts.codecFns.any (fun f => f.name == "Unmarshal" && f.forwardsInputOnly)
  then .fresh else .reused

/-- The obligation on the source (regenerated each run): no pooled or shared buffer is
    reachable from `Marshal`/`Unmarshal`; `Marshal` returns freshly allocated bytes. -/
theorem marshal_result_is_fresh : policyOfFacts = .fresh := by decide

/-- Whatever the sender marshals afterwards, a buffer already handed to the transport still
    holds the same bytes (the contract gRPC's deferred frame writer relies on). -/
theorem marshal_outputs_stable (heap : List Wire) (gs : List GEx) (i : Nat) (h : i < heap.length) :
    (sendAll policyOfFacts heap gs).1[i]? = heap[i]? := by
  rw [marshal_result_is_fresh, sendAll_fresh]
  simp [List.getElem?_append_left h]

/-- A stream of messages marshalled back to back and written out by the transport as late
    as it may arrives as exactly those messages, in order, none lost or mixed. -/
theorem stream_delivers (gs : List GEx) :
    delivered policyOfFacts gs = gs.map (fun g => some (enc g)) := by
  simp only [marshal_result_is_fresh, delivered, sendAll_fresh, List.length_nil, Nat.add_zero, List.nil_append,
    List.map_map]
  apply List.ext_getElem?
  intro i
  simp only [List.getElem?_map]
  by_cases h : i < gs.length
  · simp [h]
  · simp [List.getElem?_eq_none (by simpa using Nat.le_of_not_lt h : (List.range gs.length).length ≤ i),
      List.getElem?_eq_none (Nat.le_of_not_lt h)]

/-- … and every one of them decodes to an object observationally equal to what was sent. -/
theorem stream_roundtrip (gs : List GEx) (h : ∀ g ∈ gs, g.linked = true) :
    (delivered policyOfFacts gs).map (fun w => w.bind dec) = gs.map (fun g => some g.clearDeAgg) := by
  rw [stream_delivers, List.map_map]
  apply List.map_congr_left
  intro g hg
  simp [Function.comp, dec_enc_exact g (h g hg)]

/-- Non-vacuity of the buffer model: with a recycled buffer the first of two messages is
    delivered as the second (what the seeded sync.Pool change did to large messages). -/
example : delivered .reused [exG, exP] = [some (enc exP), some (enc exP)] ∧
    delivered .fresh [exG, exP] = [some (enc exG), some (enc exP)] := by decide +kernel

/-! ## Part 4 — empty versus absent: message kinds survive the boundary -/

/-- the struct tag of a message field as regenerated from the source; a field the source does
    not have counts as never transported -/
def tagOf (typ field : String) : FieldTag :=
  match Facts.codecFieldTags.find? (fun t => t.typ == typ && t.field == field) with
  | some t => { omitEmpty := t.omitEmpty, skip := t.skip }
  | none => { skip := true }

def tagsOfFacts : RQRTags :=
  { fields := tagOf "RemoteQueryResult" "Fields", key := tagOf "RemoteQueryResult" "Key",
    vals := tagOf "RemoteQueryResult" "Vals", row := tagOf "RemoteQueryResult" "Row",
    stats := tagOf "RemoteQueryResult" "Stats", error := tagOf "RemoteQueryResult" "Error",
    endOfResults := tagOf "RemoteQueryResult" "EndOfResults" }

/-- Struct-tag facts: no field of any struct that crosses the boundary (message structs and
    registered expression types) carries a `msgpack` tag — none is renamed, skipped (`-`),
    `omitempty`, inlined, and no struct has the `_msgpack` marker.  This is what makes the
    model's field tables (wire key = Go field name, every exported field written) the
    source's; any tag added later re-opens this obligation until it has been modelled. -/
theorem all_tags_plain :
    Facts.codecFieldTags.all (fun t =>
      !t.hasTag && t.wireName == t.field && !t.omitEmpty && !t.skip && t.opts.isEmpty && t.field != "_msgpack") = true ∧
    (["Insert", "Query", "Point", "RemoteQueryResult", "FlatRow", "Field", "QueryStats", "QueryMetaData", "Follow",
      "aggregate", "binaryExpr", "ptile"].all (fun n => Facts.codecFieldTags.any (·.typ == n))) = true := by
  decide +kernel

/-- The tests by which the receiving code tells RemoteQueryResult messages apart are the
    ones the model's `leaderKind` is built from (found in the source: `EndOfResults` in
    rpc_client.Query and HandleRemoteQueries, `Error != ""` in HandleRemoteQueries, and
    `fields/key/flatRow != nil` in queryCluster, traced back through the callbacks to
    `m.Fields`, `m.Key`, `m.Row`).  A new test on a message field breaks this. -/
theorem kind_tests_match_model :
    ((Facts.codecKindTests.filter (·.msgType == "RemoteQueryResult")).map (fun t => (t.field, t.test))).eraseDups =
      rqrKindFields := by
  decide +kernel

/-- For EVERY message type: a field the receiving code compares with nil is neither
    `omitempty` nor skipped (nil-ness must survive), and no tested field at all is skipped. -/
theorem tested_fields_keep_their_meaning :
    Facts.codecKindTests.all (fun k =>
      let t := tagOf k.msgType k.field
      !t.skip && (k.test != "nil" || !t.omitEmpty)) = true := by
  decide +kernel

private theorem tagsOfFacts_plain : tagsOfFacts = {} := by decide +kernel

/-- Under the source's tags a RemoteQueryResult comes back exactly as sent, nil-ness of every
    slice, ByteMap and pointer included. -/
theorem msg_roundtrip_exact (m : RQR) : m.roundTrip tagsOfFacts = m := by
  rw [tagsOfFacts_plain]
  exact RQR.roundTrip_plain m

/-- The obligation on the source (regenerated each run): in `HandleRemoteQueries`' receive
    loop the test of `m.Error` is not dominated by the `break` on `m.EndOfResults` — the
    follower (`ProcessRemoteQuery`) reports a failed query ON its final message. -/
theorem error_read_before_end : Facts.codecErrorBeforeEnd = true := by decide

/-- The message kind the leader infers from a decoded message is the kind the follower sent —
    for all messages, including unflat rows whose key has zero dims (`some []`), field lists
    with zero fields, flat rows with no values, and the final message that carries the
    follower's error together with `EndOfResults` (kind `failed`: an error sent by the
    follower is an error seen by the leader). -/
theorem kind_preserved (s : Sent) (unflat : Bool)
    (hq : match s with | .unflatRow _ _ => unflat = true | .flatRow _ => unflat = false | _ => True) :
    leaderKind Facts.codecErrorBeforeEnd s.first unflat (s.msg.roundTrip tagsOfFacts) = s.kind := by
  rw [error_read_before_end, tagsOfFacts_plain]
  exact leaderKind_roundTrip {} ⟨rfl, rfl⟩ ⟨rfl, rfl⟩ rfl rfl rfl s unflat hq

/-- Non-vacuity: with `omitempty` on `Key` (seeded change C20-2) an unflat row whose key has
    zero dims arrives as "partition finished"; with the source's tags it arrives as a row. -/
example :
    leaderKind true false true ((Sent.unflatRow [] (some [some [1, 2], none])).msg.roundTrip { key := { omitEmpty := true } })
      = .partitionDone ∧
    leaderKind true false true ((Sent.unflatRow [] (some [some [1, 2], none])).msg.roundTrip tagsOfFacts) = .unflatRow ∧
    leaderKind true true false ((Sent.fieldList []).msg.roundTrip { fields := { omitEmpty := true } }) = .partitionDone := by
  decide +kernel

/-- Non-vacuity: when the loop leaves on `EndOfResults` before it reads `Error` (seeded change
    C20-4) the follower's failure arrives as a normal end of results; in source order it
    arrives as `failed`; an error in a message of its own is seen either way. -/
example :
    leaderKind false false true ((Sent.endOfResults none "deadline exceeded").msg.roundTrip tagsOfFacts) = .endOfResults ∧
    leaderKind true false true ((Sent.endOfResults none "deadline exceeded").msg.roundTrip tagsOfFacts) = .failed ∧
    (Sent.endOfResults none "deadline exceeded").kind = .failed ∧
    leaderKind false false true { error := "boom" } = .failed := by
  decide +kernel

/-- Known asymmetry, outside the property's observers: `Validate()` reads
    `binaryExpr.DeAggregated`, which does not survive.  The value expression of
    `PERCENTILE(a+b, …)` validates before the trip and not after. -/
theorem validate_not_preserved :
    exP.validate = true ∧ (dec (enc exP)).map GEx.validate = some false := by decide +kernel

end Zeno.C20
