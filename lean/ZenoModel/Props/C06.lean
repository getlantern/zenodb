/-
C06 — coarser grouping (fewer dims, longer period) re-aggregates without loss or overlap.

The executable spec of a grouped query is `specQuery` (Model/QuerySpec.lean): accepted raw
rows → WHERE → window → bucket (projected key, out period) → every selected expression
accumulated directly over the bucket's rows.  The `query` correspondence engine compares
the real executor with it (and with the mechanistic model `runQuery`) on every generated
query.  The theorems below are the facts that make "merge what is stored" equal to
"accumulate the raw points of the bucket", and that make buckets a partition.
-/
import ZenoModel.Lemmas.ExprLaws
import ZenoModel.Lemmas.SubMergeLoop
import ZenoModel.Model.QuerySpec

namespace Zeno.C06
open Zeno

variable (x : Ext)

/-- Re-aggregation loses nothing and counts nothing twice: merging the stored partial states of
    any number of (key, native period) groups — in any grouping of the bucket's rows into
    batches — equals accumulating all the bucket's raw rows into one state. -/
theorem regroup_is_reaggregation {e : Ex} (hv : e.valid = true) (hp : e.noPtile = true)
    (batches : List (List Pt)) :
    (batches.map (e.acc x)).foldl e.mrg e.empty = e.acc x batches.flatten :=
  nway_merge x hv hp batches

/-- Ratios (AVG, `/`) are recomputed from the merged components, never averaged: the value read
    after merging is the value of the single accumulation. -/
theorem regroup_value {e : Ex} (hv : e.valid = true) (hp : e.noPtile = true) (batches : List (List Pt)) :
    e.val x ((batches.map (e.acc x)).foldl e.mrg e.empty) = e.val x (e.acc x batches.flatten) := by
  rw [nway_merge x hv hp]

/-- The order in which the groups of a bucket are merged does not matter (two groups). -/
theorem regroup_order_irrelevant {e : Ex} (hv : e.valid = true) (hp : e.noPtile = true) (a b : List Pt) :
    e.mrg (e.acc x a) (e.acc x b) = e.mrg (e.acc x b) (e.acc x a) :=
  mrg_comm hv hp (acc_wf x hv hp a) (acc_wf x hv hp b)

/-- Every native period end `t` lies in the out period `outPeriod hi P t`: `(T − P, T]`, on the
    grid of step `P` anchored at the query's `until`. -/
theorem bucket_contains {hi P t : Int} (h : 0 < P) :
    (hi - outPeriod hi P t) % P = 0 ∧ outPeriod hi P t - P < t ∧ t ≤ outPeriod hi P t :=
  outPeriod_spec h

/-- An out period that holds `t` is `outPeriod hi P t`: out periods are pairwise disjoint and every
    point inside the window contributes to exactly one output row. -/
theorem buckets_partition {hi P t T : Int} (h : 0 < P) (hg : (hi - T) % P = 0)
    (h1 : T - P < t) (h2 : t ≤ T) : T = outPeriod hi P t :=
  outPeriod_unique h hg h1 h2

/-- The code's loop index `⌊(po + untilOffset)/scale⌋` in `Sequence.SubMerge` designates exactly
    that out period (step `scale·otherRes`, anchored at the result's `until`). -/
theorem subMerge_targets_bucket {scale otherRes resultUntil otherUntil untilOffset : Int} (po : Nat)
    (hs : 0 < scale) (hr : 0 < otherRes) (hoff : resultUntil - otherUntil = untilOffset * otherRes) :
    resultUntil - (((po : Int) + untilOffset) / scale) * (scale * otherRes) =
      outPeriod resultUntil (scale * otherRes) (otherUntil - (po : Int) * otherRes) := by
  unfold outPeriod
  rw [show resultUntil - (otherUntil - (po : Int) * otherRes) = ((po : Int) + untilOffset) * otherRes by
    rw [Int.add_mul]; omega, Int.mul_ediv_mul_of_pos_left _ _ hr]

/-- The loop of `Sequence.SubMerge` (no stride, non-negative offset): for every result period
    `q` it leaves the state obtained by merging in, in source order, exactly the source periods
    `po` with `⌊(po + off)/scale⌋ = q`, each once, and nothing else (`loopSpec`).  Together with
    `subMerge_targets_bucket` this is "every stored period inside the window contributes to
    exactly one output row". -/
theorem subMerge_loop_exactly_once (e : Ex) (sm : SM) (otherRes : Int) (p : Pt) {scale off : Int} (hs : 0 < scale)
    (strideSlice ssp : Int) (hstride : strideSlice ≤ 0) (n : Nat) (os : List (List Cell)) (po : Nat)
    (result : List (List Cell)) (q : Nat) (hnn : 0 ≤ (po : Int) + off) (hlen : result.length = n) (hq : q < n) :
    (subMergeLoop sm otherRes p scale off strideSlice ssp n po os result).getD q e.empty =
      loopSpec sm otherRes p scale off q po os (result.getD q e.empty) :=
  subMergeLoop_spec e sm otherRes p hs strideSlice ssp hstride n os po result q hnn hlen hq

/-- The spec's bucket function is `outPeriod` (so `bucket_contains` and `buckets_partition` are about the spec). -/
theorem spec_bucket_is_outPeriod (hi P t : Int) : hi - ((hi - t) / P) * P = outPeriod hi P t := rfl

/-- Projecting a key onto a subset of dims is idempotent. -/
theorem key_projection_idem (names : List String) (k : Key) :
    (k.filter (fun kv => names.contains kv.1)).filter (fun kv => names.contains kv.1) =
      k.filter (fun kv => names.contains kv.1) := by
  simp [List.filter_filter]

/-! Non-vacuity -/

def exE : Ex := .bin .div (.agg .sum (.field "a")) (.agg .count (.field "a"))
def exBatches : List (List Pt) := [[{ vals := [("a", 3)] }, { vals := [("a", 5)] }], [], [{ vals := [("a", 4)] }]]
example : exE.valid = true ∧ exE.noPtile = true := by decide
example : exE.val default ((exBatches.map (exE.acc default)).foldl exE.mrg exE.empty) = some 4 := by decide +kernel
example : outPeriod 1000 30 955 = 970 ∧ outPeriod 1000 30 970 = 970 ∧ outPeriod 1000 30 971 = 1000 := by decide

end Zeno.C06
