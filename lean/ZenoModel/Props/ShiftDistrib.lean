/-
C05 (sub-merge part) — SHIFT distributes over the operators of a composite expression.

The Go closure built by `shift.shiftedSubMerger` steps back `-(off / otherRes)` periods *of the
column it reads from* and then runs the wrapped expression's sub-merger.  For a composite wrapped
expression (`x op y`, `IF(c, x)`) this must be the same as shifting each operand separately:
`SHIFT(x op y, off)` sub-merges like `SHIFT(x, off) op SHIFT(y, off)`.  The correspondence harness
checks exactly this equation on the real `Expr.SubMergers`/`Sequence.SubMerge` (seq engine, oracle
"SHIFT distributes over the operators"); here it is proved for the model's `Ex.subMergers`.
-/
import ZenoModel.Model.SubMerge

namespace Zeno.ShiftDistrib

/-- running the (possibly absent) sub-merger of one input column: no sub-merger, no change -/
def app : Option SM → List Cell → List (List Cell) → Int → Pt → List Cell
  | none, data, _, _, _ => data
  | some sm, data, other, otherRes, p => sm.apply data other otherRes p

/-- a shifted pair is the pair of the shifted -/
theorem shifted_both (off : Int) (l r : SM) (skip : Nat) (data : List Cell) (other : List (List Cell))
    (otherRes : Int) (p : Pt) :
    (SM.shifted off (.both l skip r)).apply data other otherRes p
      = (SM.both (.shifted off l) skip (.shifted off r)).apply data other otherRes p := by
  simp only [SM.apply]
  split
  · rfl
  · simp [List.take_append_drop]

theorem shifted_right (off : Int) (r : SM) (skip : Nat) (data : List Cell) (other : List (List Cell))
    (otherRes : Int) (p : Pt) :
    (SM.shifted off (.right skip r)).apply data other otherRes p
      = (SM.right skip (.shifted off r)).apply data other otherRes p := by
  simp only [SM.apply]
  split
  · rfl
  · simp [List.take_append_drop]

/-- `IF(c, ·)` and SHIFT commute -/
theorem shifted_cond (off : Int) (c : Nat) (w : SM) (data : List Cell) (other : List (List Cell))
    (otherRes : Int) (p : Pt) :
    (SM.shifted off (.cond c w)).apply data other otherRes p
      = (SM.cond c (.shifted off w)).apply data other otherRes p := by
  simp only [SM.apply]
  split <;> split <;> rfl

/-- `combinedSubMerge` of two shifted sub-mergers = the shifted `combinedSubMerge` -/
theorem combined_shifted (l r : Option SM) (skip : Nat) (off : Int) (data : List Cell)
    (other : List (List Cell)) (otherRes : Int) (p : Pt) :
    app ((combinedSM l skip r).map (SM.shifted off)) data other otherRes p
      = app (combinedSM (l.map (SM.shifted off)) skip (r.map (SM.shifted off))) data other otherRes p := by
  cases l <;> cases r <;> simp only [combinedSM, Option.map, app]
  · exact shifted_right off _ skip data other otherRes p
  · exact shifted_both off _ _ skip data other otherRes p

theorem getD_map_shifted (xs : List (Option SM)) (off : Int) (j : Nat) :
    (xs.map (fun sm => sm.map (SM.shifted off))).getD j none = ((xs.getD j none).map (SM.shifted off)) := by
  simp only [List.getD_eq_getElem?_getD, List.getElem?_map]
  cases xs[j]? <;> rfl

private theorem getD_map_range (f : Nat → Option SM) {n j : Nat} (hj : j < n) :
    ((List.range n).map f).getD j none = f j := by
  simp [List.getD_eq_getElem?_getD, List.getElem?_range hj]

/-! the sub-mergers of a composite that no column prints like -/

private theorem subMergers_shift (w : Ex) (off : Int) (subs : List Ex)
    (h : subs.any (fun s => (Ex.shift w off).sameStr s) = false) :
    (Ex.shift w off).subMergers subs = (w.subMergers subs).map (fun sm => sm.map (SM.shifted off)) := by
  rw [Ex.subMergers]
  simp only [h]
  rfl

private theorem subMergers_ifE (c : Nat) (w : Ex) (subs : List Ex)
    (h : subs.any (fun s => (Ex.ifE c w).sameStr s) = false) :
    (Ex.ifE c w).subMergers subs = (w.subMergers subs).map (fun sm => sm.map (SM.cond c)) := by
  rw [Ex.subMergers]
  simp only [h]
  rfl

private theorem subMergers_bin (op : BinOp) (l r : Ex) (subs : List Ex)
    (h : subs.findIdx? (fun s => (Ex.bin op l r).sameStr s) = none) :
    (Ex.bin op l r).subMergers subs = (List.range subs.length).map
      (fun j => combinedSM ((l.subMergers subs).getD j none) l.width ((r.subMergers subs).getD j none)) := by
  rw [Ex.subMergers]
  simp only [h]

/-- **SHIFT distributes over a binary operator.**  When no table column prints like one of the
    shifted forms (otherwise that column is merged as it is), every input column `j` contributes to
    `SHIFT(l op r, off)` exactly what it contributes to `SHIFT(l, off) op SHIFT(r, off)`. -/
theorem shift_distributes_bin (op : BinOp) (l r : Ex) (off : Int) (subs : List Ex)
    (h1 : subs.any (fun s => (Ex.shift (.bin op l r) off).sameStr s) = false)
    (h2 : subs.findIdx? (fun s => (Ex.bin op l r).sameStr s) = none)
    (h3 : subs.findIdx? (fun s => (Ex.bin op (.shift l off) (.shift r off)).sameStr s) = none)
    (h4 : subs.any (fun s => (Ex.shift l off).sameStr s) = false)
    (h5 : subs.any (fun s => (Ex.shift r off).sameStr s) = false)
    (j : Nat) (hj : j < subs.length)
    (data : List Cell) (other : List (List Cell)) (otherRes : Int) (p : Pt) :
    app (((Ex.shift (.bin op l r) off).subMergers subs).getD j none) data other otherRes p
      = app (((Ex.bin op (.shift l off) (.shift r off)).subMergers subs).getD j none) data other otherRes p := by
  rw [subMergers_shift _ off subs h1, subMergers_bin op l r subs h2, subMergers_bin _ _ _ subs h3,
    subMergers_shift l off subs h4, subMergers_shift r off subs h5, getD_map_shifted,
    getD_map_range _ hj, getD_map_range _ hj, getD_map_shifted, getD_map_shifted]
  exact combined_shifted _ _ l.width off data other otherRes p

/-- **SHIFT commutes with IF.** -/
theorem shift_distributes_if (c : Nat) (w : Ex) (off : Int) (subs : List Ex)
    (h1 : subs.any (fun s => (Ex.shift (.ifE c w) off).sameStr s) = false)
    (h2 : subs.any (fun s => (Ex.ifE c w).sameStr s) = false)
    (h3 : subs.any (fun s => (Ex.ifE c (.shift w off)).sameStr s) = false)
    (h4 : subs.any (fun s => (Ex.shift w off).sameStr s) = false)
    (j : Nat) (data : List Cell) (other : List (List Cell)) (otherRes : Int) (p : Pt) :
    app (((Ex.shift (.ifE c w) off).subMergers subs).getD j none) data other otherRes p
      = app (((Ex.ifE c (.shift w off)).subMergers subs).getD j none) data other otherRes p := by
  rw [subMergers_shift _ off subs h1, subMergers_ifE c w subs h2, subMergers_ifE c _ subs h3,
    subMergers_shift w off subs h4]
  simp only [List.getD_eq_getElem?_getD, List.getElem?_map]
  cases (w.subMergers subs)[j]? with
  | none => rfl
  | some o =>
    cases o with
    | none => rfl
    | some sm => exact shifted_cond off c sm data other otherRes p

/-- non-vacuity: `SHIFT(SUM(a) + SUM(b), -2·res)` over the columns `[SUM(a), SUM(b)]` meets the
    hypotheses, and both forms have a sub-merger for each column -/
example :
    let a := Ex.agg .sum (.field "a"); let b := Ex.agg .sum (.field "b")
    let subs := [a, b]
    subs.any (fun s => (Ex.shift (.bin .add a b) (-2)).sameStr s) = false ∧
    subs.findIdx? (fun s => (Ex.bin .add a b).sameStr s) = none ∧
    subs.findIdx? (fun s => (Ex.bin .add (.shift a (-2)) (.shift b (-2))).sameStr s) = none ∧
    subs.any (fun s => (Ex.shift a (-2)).sameStr s) = false ∧
    subs.any (fun s => (Ex.shift b (-2)).sameStr s) = false ∧
    (((Ex.shift (.bin .add a b) (-2)).subMergers subs).map Option.isSome) = [true, true] := by
  decide

end Zeno.ShiftDistrib
