/-
C07 — ASOF/UNTIL return exactly the periods inside the requested time window.

`planLocal` (Model/Query.lean) is `asOfUntilFor` + `resolutionFor` of planner/local.go; the
restriction of a stored series to the window is `Sq.truncate` (the first thing
`Sequence.SubMerge` does to its source).  The `query` engine compares real bounded queries
with the model and with the raw-point spec `specQuery`, whose window clause is literally
`asOf < periodEnd ∧ periodEnd ≤ until`.
-/
import ZenoModel.Lemmas.Seq
import ZenoModel.Model.QuerySpec

namespace Zeno.C07
open Zeno

theorem roundUp_zero (res : Int) : roundUp 0 res = 0 := by
  unfold roundUp goRound
  by_cases hr : res ≤ 0
  · simp [hr]
  · have : (0 : Int) % res = 0 := Int.zero_emod res
    simp [hr, this]
    omega

/-- Without a time range the window is the table's:
    `(roundUp (roundUp now res − retention) res, roundUp now res]`. -/
theorem window_default (cfg : TableCfg) (now : Int) (q : Query)
    (h0 : q.asOf = 0 ∧ q.hi = 0 ∧ q.asOfOffset = 0 ∧ q.untilOffset = 0) :
    (windowFor cfg now q).asOf = roundUp (roundUp now cfg.res - cfg.retention) cfg.res ∧
      (windowFor cfg now q).hi = roundUp now cfg.res ∧
      (windowFor cfg now q).asOfChanged = false ∧ (windowFor cfg now q).untilChanged = false := by
  obtain ⟨ha, hh, hao, huo⟩ := h0
  simp [windowFor, ha, hh, hao, huo, roundUp_zero, tableAsOf, tableUntil]

/-- With a time range, the window's bounds are the requested ones rounded up (or the table's
    when the rounded value coincides with it). -/
theorem window_requested (cfg : TableCfg) (now : Int) (q : Query) :
    ((windowFor cfg now q).asOf = (windowFor cfg now q).qAsOf ∨ (windowFor cfg now q).asOf = tableAsOf cfg now) ∧
    ((windowFor cfg now q).hi = (windowFor cfg now q).qUntil ∨ (windowFor cfg now q).hi = tableUntil cfg now) := by
  simp only [windowFor]
  constructor
  · by_cases hc : ((roundUp (if q.asOfOffset ≠ 0 then now + q.asOfOffset else q.asOf) cfg.res ≠ 0 &&
        roundUp (if q.asOfOffset ≠ 0 then now + q.asOfOffset else q.asOf) cfg.res ≠ tableAsOf cfg now) = true)
    · left; rw [if_pos hc]
    · right; rw [if_neg hc]
  · by_cases hc : ((roundUp (if q.untilOffset ≠ 0 then now + q.untilOffset else q.hi) cfg.res ≠ 0 &&
        roundUp (if q.untilOffset ≠ 0 then now + q.untilOffset else q.hi) cfg.res ≠ tableUntil cfg now) = true)
    · left; rw [if_pos hc]
    · right; rw [if_neg hc]

/-- A requested bound is moved up to the next period boundary of the table, never down, and by
    less than one resolution. -/
theorem bound_rounded_up {t res : Int} (h : 0 < res) :
    roundUp t res % res = 0 ∧ t ≤ roundUp t res ∧ roundUp t res < t + res :=
  ⟨roundUp_mod h, roundUp_ge h, roundUp_lt h⟩

/-- A bound that lies on the series' grid is used as it is. -/
theorem aligned_bound_exact {t res hi : Int} (h : 0 < res) (ht : t ≠ 0) (hh : hi ≠ 0)
    (hal : (hi - t) % res = 0) : roundUntilDown t res hi = t :=
  roundUntilDown_aligned h ht hal

/-- Restricting a stored series to `(asOf, until]` with both bounds on the
    series' grid (the planner has rounded them) keeps every period with `asOf < end ≤ until`
    with its state unchanged and makes every other period read as empty — so a period wholly
    inside is returned with the value the unbounded query reports, and a period that ends at or
    before `asOf`, or after `until`, is not returned. -/
theorem window_exact (e : Ex) {res : Int} (h : 0 < res) (q : Seq) (asOf hi : Int)
    (ha : asOf ≠ 0) (hh : hi ≠ 0) (hq : q.hi ≠ 0)
    (hal1 : (q.hi - asOf) % res = 0) (hal2 : (q.hi - hi) % res = 0) (T : Int) :
    (Sq.truncate (some q) res asOf hi).at e res T =
      if asOf < T ∧ T ≤ hi then Sq.at (some q) e res T else e.empty := by
  rw [sem_truncate e h q asOf hi T, aligned_bound_exact h ha hq hal1, aligned_bound_exact h hh hq hal2]
  simp [ha, hh]

/-- Unaligned bounds (only possible for series off the absolute grid): the straddling period is
    decided by rounding the bound down on the series' grid, i.e. a period is kept iff it ends
    after the largest grid point ≤ asOf and at or before the largest grid point ≤ until. -/
theorem window_general (e : Ex) {res : Int} (h : 0 < res) (q : Seq) (asOf hi T : Int) :
    (Sq.truncate (some q) res asOf hi).at e res T =
      if (roundUntilDown asOf res q.hi = 0 ∨ roundUntilDown asOf res q.hi < T) ∧
         (roundUntilDown hi res q.hi = 0 ∨ T ≤ roundUntilDown hi res q.hi)
      then Sq.at (some q) e res T else e.empty :=
  sem_truncate e h q asOf hi T

/-- A query whose (rounded) asOf is earlier than the table's is rejected, not silently clamped. -/
theorem asOf_before_table_rejected (cfg : TableCfg) (now : Int) (q : Query)
    (hlt : (windowFor cfg now q).asOf < tableAsOf cfg now) :
    planLocal cfg now q = .error .asOfBeforeTable := by
  unfold planLocal
  simp [hlt]

/-- The group operator always spans at least one output period (`group.GetAsOf`). -/
theorem at_least_one_period (hi asOf0 res : Int) :
    hi - (if hi - asOf0 < res then hi - res else asOf0) ≥ res := by
  by_cases h : hi - asOf0 < res
  · rw [if_pos h]; omega
  · rw [if_neg h]; omega

/-- The spec keeps exactly the accepted rows whose native period end lies in `(lo, hi]`. -/
theorem spec_window_clause (rows : List AccRow) (lo hi : Int) (r : AccRow) :
    r ∈ rows.filter (fun r => lo < r.period ∧ r.period ≤ hi) ↔ r ∈ rows ∧ lo < r.period ∧ r.period ≤ hi := by
  simp [List.mem_filter]

/-! Non-vacuity -/

def exSeq : Seq := ⟨1000, [[.agg (some 1)], [.agg (some 2)], [.agg (some 3)], [.agg (some 4)]]⟩
example : (exSeq.hi - 970) % 10 = 0 ∧ (exSeq.hi - 990) % 10 = 0 := by decide
example : Sq.truncate (some exSeq) 10 970 990 = some ⟨990, [[.agg (some 2)], [.agg (some 3)]]⟩ := by decide +kernel

end Zeno.C07
