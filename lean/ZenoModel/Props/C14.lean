/-
C14 — retention drops only expired data, and expired data stays gone.

One column of the row store (see the header of Props/C01.lean).  `now` is the virtual
database clock (maximum accepted timestamp); `tb = now − retention` is the truncation
bound the code computes.
-/
import ZenoModel.Lemmas.ColumnSpec

namespace Zeno.C14
open Zeno

variable (x : Ext)

/-- A point older than the retention period when it is processed leaves the column (series in
    memory, series on disk, clock) exactly as it was. -/
theorem old_point_not_stored (cfg : ColCfg) (c : Col) (ts : Int) (pt : Pt)
    (hold : ts < c.now - cfg.retention) : c.step x cfg (.ingest ts pt) = c := by
  simp [Col.step, accepted, hold]

/-- A point older than the retention period is not counted by the spec either. -/
theorem old_point_not_counted (cfg : ColCfg) (T now ts : Int) (pt : Pt) (r : List ColOp)
    (hold : ts < now - cfg.retention) :
    rowsFor cfg T now (.ingest ts pt :: r) = rowsFor cfg T now r := by
  simp [rowsFor, accepted, hold]

/-- A period that is still inside the retention window is never dropped: after any script of
    inserts (late, out of order), clock advances and flushes (raw or truncating), every live
    period still holds the accumulation of all its accepted rows. -/
theorem live_period_kept (cfg : ColCfg) (hv : cfg.e.valid = true) (hp : cfg.e.noPtile = true)
    (hres : 0 < cfg.res) (ops : List ColOp) (hpos : OpsPos ops) (T : Int)
    (hl : Live cfg (Col.run x cfg ops).now T) (hT0 : 0 < T) :
    ((Col.run x cfg ops).view cfg true).at cfg.e cfg.res T = cfg.e.acc x (rowsFor cfg T 0 ops) := by
  rw [view_eq_spec x cfg hv hp hres (colInv_run x cfg hv hp hres ops hpos) T hl hT0, spec_cells_eq_acc]

/-- The virtual clock never goes back. -/
theorem clock_monotone (cfg : ColCfg) (c : Col) (op : ColOp) : c.now ≤ (c.step x cfg op).now := by
  cases op <;> simp only [Col.step]
  · split <;> simp <;> omega
  · split <;> simp <;> omega
  · exact Int.le_refl _
  · split <;> exact Int.le_refl _

/-- After a truncating (non-raw) flush nothing at or before the rounded truncation bound is
    left on disk. -/
theorem expired_gone_after_truncating_flush (cfg : ColCfg) (hres : 0 < cfg.res) (c : Col) (T : Int)
    (hgone : roundUntilDown (c.now - cfg.retention) cfg.res
        ((Sq.merge cfg.e cfg.res c.file c.mem (c.now - cfg.retention)).until) ≠ 0 ∧
      T ≤ roundUntilDown (c.now - cfg.retention) cfg.res
        ((Sq.merge cfg.e cfg.res c.file c.mem (c.now - cfg.retention)).until)) :
    ((c.step x cfg (.flush false)).file).at cfg.e cfg.res T = cfg.e.empty := by
  simp only [Col.step, Bool.false_and, Bool.false_eq_true, if_false]
  cases hm : Sq.merge cfg.e cfg.res c.file c.mem (c.now - cfg.retention) with
  | none => rfl
  | some q =>
    rw [hm] at hgone
    rw [sem_truncate cfg.e hres q, if_neg]
    exact fun hc => hc.1.elim hgone.1 (Int.not_lt.mpr hgone.2)

/-- The rounded truncation bound is within one resolution below `now − retention`: nothing that
    ended more than one resolution before `now − retention` survives a truncating flush, and
    nothing that ends after `now − retention` is cut. -/
theorem truncation_bound_tight {tb res hi : Int} (h : 0 < res) (ht : tb ≠ 0) (hh : hi ≠ 0) :
    roundUntilDown tb res hi ≤ tb ∧ tb - res < roundUntilDown tb res hi :=
  (roundUntilDown_bounds h ht).2

/-- Raw pass-through is refused on every tenth flush, so any ten consecutive flushes contain a
    truncating one (`flushCount % 10 == 9`). -/
theorem truncating_flush_within_ten (n : Nat) : ∃ k, k < 10 ∧ (n + k) % 10 = 9 :=
  ⟨(19 - n % 10) % 10, by omega, by omega⟩

/-- No resurrection: a period that ended strictly before the retention bound cannot receive an
    accepted point any more (its points are rejected by the age check), at any later clock. -/
theorem no_resurrection (cfg : ColCfg) (hres : 0 < cfg.res) (now now' ts T : Int)
    (hmono : now ≤ now') (hexp : T < now - cfg.retention) (hacc : accepted cfg now' ts = true) :
    roundUp ts cfg.res ≠ T := by
  intro heq
  have := roundUp_ge (t := ts) hres
  simp [accepted] at hacc
  omega

/-! Non-vacuity -/

def exCfg : ColCfg := { e := .agg .sum (.field "a"), res := 10, retention := 30 }
def exOps : List ColOp :=
  [.ingest 1003 { vals := [("a", 2)] }, .ingest 1045 { vals := [("a", 5)] }, .ingest 1004 { vals := [("a", 9)] },
   .flush false]

/-- the truncating flush cut the series (periods 1050 … 1020 kept, 1010 dropped; the point at 1004 was too old and rejected) -/
example : ((Col.run default exCfg exOps).file.map (fun q => (q.hi, q.cells.length))) = some (1050, 4) := by
  decide +kernel
example : Live exCfg (Col.run default exCfg exOps).now 1050 ∧ OpsPos exOps := by
  refine ⟨⟨by decide, by decide +kernel⟩, ?_⟩
  simp [exOps, OpsPos]

end Zeno.C14
