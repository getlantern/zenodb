/-
SubMergeSem — `Sequence.SubMerge` (encoding/seq.go) as a whole, and its use by `core.Group`
(`groupRows`), for the queries C06/C07 are about: the selected field is a table field (direct
sub-merger `e.Merge(data, data, other)`), no SHIFT, no stride; the query's period is a multiple
`k ≥ 1` of the table resolution and its window `(asOf, hi]` lies on the table's period grid.

Reading guide.  `Sq.at s e res T` is the state a sequence holds for the period ending at `T`
(`e.empty` when it holds none).  `bucketTimes otherRes k asOf hi T` lists the native period ends
`T, T − otherRes, …` of the out period `(T − k·otherRes, T]` that lie inside `(asOf, hi]`;
`mergeOnto e otherRes other ts acc` merges `other`'s states for the periods `ts` onto `acc` with
`e.Merge`, in that order (the order of the loop; by `mrg_comm`/`mrg_assoc` any other order gives
the same state).  `RecvGrid`: the receiver is empty or on the out grid anchored at `hi`;
`InWindow`: it holds nothing outside the window — both hold for `none` and are re-established by
every `SubMerge` (`subMerge_result_invariant`), so they hold for every accumulator column of
`core.Group`.  The proofs stand in Lemmas/SubMergeSem*.lean; what follows states the results under
the names the documents use, with the window conditions (`SMWindow`) spelt out.
-/
import ZenoModel.Lemmas.SubMergeSemSpec

namespace Zeno.SubMergeSem
open Zeno

/-- What `Sequence.SubMerge` computes.  At every out period end `T` on the grid anchored at `hi`:
    inside the window the result holds the receiver's state merged with exactly the source periods
    of the bucket `(T − res, T]` that lie inside `(asOf, hi]` (each once: `bucket_periods_exact`,
    `bucket_periods_once`), newest first; outside the window it holds nothing.  A bucket cut by
    `asOf` (window not a multiple of `res`) is kept with only its periods after `asOf`. -/
theorem sem_subMerge {e : Ex} (hv : e.valid = true) (hp : e.noPtile = true) (hshift : e.shiftOf = 0)
    {res otherRes : Int} {k : Nat} {asOf hi : Int}
    (hor : 0 < otherRes) (hk : 0 < k) (hres : res = (k : Int) * otherRes)
    (ha0 : 0 < asOf) (hlt : asOf < hi) (haa : asOf % otherRes = 0) (hha : hi % otherRes = 0)
    (s other : Sq) (p : Pt) (ho : SqOk otherRes other) (hwo : SqWF e other)
    (hg : RecvGrid e res hi s) (hin : InWindow e res asOf hi s)
    (T : Int) (hT : (hi - T) % res = 0) :
    (Sq.subMerge e e (.direct e) res otherRes s other p asOf hi 0).at e res T =
      if asOf < T ∧ T ≤ hi
      then mergeOnto e otherRes other (bucketTimes otherRes k asOf hi T) (s.at e res T)
      else e.empty :=
  sem_subMerge_lem hv hp hshift ⟨hor, hk, hres, ha0, hlt, haa, hha⟩ s other p ho hwo hg hin T hT

/-- the merged periods are exactly those of the bucket `(T − k·otherRes, T]` on the source grid
    that lie inside the window — none from outside -/
theorem bucket_periods_exact {otherRes : Int} (h : 0 < otherRes) (k : Nat) (asOf hi T t : Int) :
    t ∈ bucketTimes otherRes k asOf hi T ↔
      (T - (k : Int) * otherRes < t ∧ t ≤ T ∧ (T - t) % otherRes = 0) ∧ asOf < t ∧ t ≤ hi :=
  mem_bucketTimes h k asOf hi T t

/-- no period of the bucket is merged twice -/
theorem bucket_periods_once {otherRes : Int} (h : 0 < otherRes) (k : Nat) (asOf hi T : Int) :
    (bucketTimes otherRes k asOf hi T).Nodup :=
  nodup_bucketTimes h k asOf hi T

/-- the result of `SubMerge` is again a receiver on the out grid that holds nothing outside the
    window (the invariant of `core.Group`'s accumulator columns) -/
theorem subMerge_result_invariant {e : Ex} (hv : e.valid = true) (hp : e.noPtile = true) (hshift : e.shiftOf = 0)
    {res otherRes : Int} {k : Nat} {asOf hi : Int}
    (hor : 0 < otherRes) (hk : 0 < k) (hres : res = (k : Int) * otherRes)
    (ha0 : 0 < asOf) (hlt : asOf < hi) (haa : asOf % otherRes = 0) (hha : hi % otherRes = 0)
    (s other : Sq) (p : Pt) (ho : SqOk otherRes other) (hwo : SqWF e other)
    (hg : RecvGrid e res hi s) (hin : InWindow e res asOf hi s) :
    RecvGrid e res hi (Sq.subMerge e e (.direct e) res otherRes s other p asOf hi 0) ∧
      InWindow e res asOf hi (Sq.subMerge e e (.direct e) res otherRes s other p asOf hi 0) :=
  subMerge_inv_lem hv hp hshift ⟨hor, hk, hres, ha0, hlt, haa, hha⟩ s other p ho hwo hg hin

/-- fresh receiver: the result at `T` is the n-way merge of exactly the bucket's source periods
    inside the window -/
theorem sem_subMerge_fresh {e : Ex} (hv : e.valid = true) (hp : e.noPtile = true) (hshift : e.shiftOf = 0)
    {res otherRes : Int} {k : Nat} {asOf hi : Int} (w : SMWindow res otherRes k asOf hi)
    (other : Sq) (p : Pt) (ho : SqOk otherRes other) (hwo : SqWF e other)
    (T : Int) (hT : (hi - T) % res = 0) :
    (Sq.subMerge e e (.direct e) res otherRes none other p asOf hi 0).at e res T =
      if asOf < T ∧ T ≤ hi
      then mergeOnto e otherRes other (bucketTimes otherRes k asOf hi T) e.empty
      else e.empty :=
  sem_subMerge_lem hv hp hshift w none other p ho hwo trivial (fun _ _ => rfl) T hT

/-- onto an empty receiver, when every stored state of the source is the accumulation of its period's
    raw points, a period of the window holds the accumulation of all raw points of its bucket (no loss,
    no double counting) -/
theorem sem_subMerge_fresh_points (x : Ext) {e : Ex} (hv : e.valid = true) (hp : e.noPtile = true)
    (hshift : e.shiftOf = 0) {res otherRes : Int} {k : Nat} {asOf hi : Int}
    (hor : 0 < otherRes) (hk : 0 < k) (hres : res = (k : Int) * otherRes)
    (ha0 : 0 < asOf) (hlt : asOf < hi) (haa : asOf % otherRes = 0) (hha : hi % otherRes = 0)
    (other : Sq) (p : Pt) (ho : SqOk otherRes other) (hwo : SqWF e other)
    (T : Int) (hT : (hi - T) % res = 0) (hW : asOf < T ∧ T ≤ hi) (pts : Int → List Pt)
    (hstore : ∀ t ∈ bucketTimes otherRes k asOf hi T, other.at e otherRes t = e.acc x (pts t)) :
    (Sq.subMerge e e (.direct e) res otherRes none other p asOf hi 0).at e res T =
      e.acc x ((bucketTimes otherRes k asOf hi T).map pts).flatten := by
  rw [sem_subMerge_fresh hv hp hshift ⟨hor, hk, hres, ha0, hlt, haa, hha⟩ other p ho hwo T hT, if_pos hW]
  have := mergeOnto_acc x hv hp otherRes other pts _ [] hstore
  simpa [Ex.acc] using this

/-- Finding (receiver handling is not uniform).  When the source has no period inside the window,
    `SubMerge` returns the receiver as it is — in particular not truncated to the window. -/
theorem subMerge_miss_returns_receiver (e : Ex) (hshift : e.shiftOf = 0) (res otherRes : Int) (s other : Sq)
    (p : Pt) (asOf hi : Int) (h : (other.truncate otherRes asOf hi).numPeriods = 0) :
    Sq.subMerge e e (.direct e) res otherRes s other p asOf hi 0 = s :=
  subMerge_miss e hshift res otherRes s other p asOf hi h

/-- When the source has a period inside the window the receiver is truncated to the
    window: whatever it held outside is dropped.  (`res ≤ asOf`: the window starts at least one
    out period after the zero time, so that the rounded bound is not read as "no bound".) -/
theorem sem_subMerge_truncates_receiver {e : Ex} (hv : e.valid = true) (hp : e.noPtile = true)
    (hshift : e.shiftOf = 0) {res otherRes : Int} {k : Nat} {asOf hi : Int}
    (hor : 0 < otherRes) (hk : 0 < k) (hres : res = (k : Int) * otherRes)
    (ha0 : 0 < asOf) (hlt : asOf < hi) (haa : asOf % otherRes = 0) (hha : hi % otherRes = 0)
    (s other : Sq) (p : Pt) (ho : SqOk otherRes other) (hwo : SqWF e other)
    (hg : RecvGrid e res hi s) (hra : res ≤ asOf)
    (hhit : (other.truncate otherRes asOf hi).numPeriods ≠ 0) (T : Int) (hT : (hi - T) % res = 0) :
    (Sq.subMerge e e (.direct e) res otherRes s other p asOf hi 0).at e res T =
      if asOf < T ∧ T ≤ hi
      then mergeOnto e otherRes other (bucketTimes otherRes k asOf hi T) (s.at e res T)
      else e.empty := by
  have w : SMWindow res otherRes k asOf hi := ⟨hor, hk, hres, ha0, hlt, haa, hha⟩
  refine (subMerge_hit hv hp hshift w s other p ho hwo hg hhit).2 T hT ?_
  cases s with
  | none => simp [Sq.truncate, at_none]
  | some q =>
    rw [recv_truncate_at e w q hg T hT]
    -- the bound rounded down on the receiver's grid is still positive, i.e. a bound
    obtain ⟨_, _, s3⟩ := roundUntilDown_bounds (t := asOf) (hi := q.hi) w.resPos (by omega)
    have hA : ¬ roundUntilDown asOf res q.hi = 0 := by omega
    simp only [hA, false_or]

/-- many sources into one receiver (one output column of one group): source after source, each
    contributes exactly its bucket periods -/
theorem sem_subMergeAll {e : Ex} (hv : e.valid = true) (hp : e.noPtile = true) (hshift : e.shiftOf = 0)
    {res otherRes : Int} {k : Nat} {asOf hi : Int}
    (hor : 0 < otherRes) (hk : 0 < k) (hres : res = (k : Int) * otherRes)
    (ha0 : 0 < asOf) (hlt : asOf < hi) (haa : asOf % otherRes = 0) (hha : hi % otherRes = 0)
    (srcs : List Src) (hall : ∀ op ∈ srcs, SqOk otherRes op.1 ∧ SqWF e op.1)
    (T : Int) (hT : (hi - T) % res = 0) :
    (subMergeAll e res otherRes asOf hi srcs none).at e res T =
      if asOf < T ∧ T ≤ hi
      then mergeAllOnto e otherRes srcs (bucketTimes otherRes k asOf hi T) e.empty
      else e.empty := by
  have := (sem_subMergeAll_lem hv hp hshift ⟨hor, hk, hres, ha0, hlt, haa, hha⟩ srcs none hall trivial
    (fun _ _ => rfl)).2 T hT
  rw [this, at_none]

/-- `planLocal` establishes the resolution/window side conditions of `sem_subMerge` for the
    parameters `groupRows` passes (`res = k·tableRes`, bounds on the table grid, `asOf < until`);
    only `0 < asOf` (the window does not reach back to Go's zero time) is extra. -/
theorem planLocal_establishes_window (cfg : TableCfg) (now : Int) (q : Query) (pl : Plan)
    (h : planLocal cfg now q = .ok pl) (hres : 0 < cfg.res) (hpos : 0 < gAsOfOf cfg now pl) :
    SMWindow (gResOf cfg pl) cfg.res (gResOf cfg pl / cfg.res).toNat (gAsOfOf cfg now pl) (gUntilOf cfg now pl) :=
  planLocal_window cfg now q pl h hres hpos

/-- an aggregate that is itself a table field, among table fields with pairwise different printed
    forms, gets exactly one sub-merger: the direct one, from that field (`Expr.SubMergers` +
    `bytetree.New`'s de-duplication) -/
theorem direct_submerger_of_table_aggregate (ins : List Ex) (kd : AggKind) (wd : Ex) (j : Nat)
    (hj : ins[j]? = some (.agg kd wd))
    (hdist : ∀ (i i' : Nat) (a b : Ex), i ≠ i' → ins[i]? = some a → ins[i']? = some b → a.sameStr b = false) :
    OneHot (dedupInputs ins ((Ex.agg kd wd).subMergers ins)) j (.agg kd wd) :=
  oneHot_of_table_aggregate ins kd wd j hj hdist

/-- the output rows of `groupRows`: one per projected key of the scan rows, none twice -/
theorem groupRows_keys_exact (cfg : TableCfg) (now : Int) (q : Query) (pl : Plan) (inFields : List Field)
    (metas : List KeyMeta) (rows : List Row) :
    ((groupRows cfg now q pl inFields metas rows).1.map (·.key)).Nodup ∧
      ∀ k, k ∈ (groupRows cfg now q pl inFields metas rows).1.map (·.key) ↔ ∃ r ∈ rows, gSlice q r.key = k :=
  groupRows_keys cfg now q pl inFields metas rows

/-- `colsOf` (hence `groupCell`) at the key of an output row reads that row's columns -/
theorem groupRows_row_cols (init : List Sq) (out : List Row) (hnd : (out.map (·.key)).Nodup) (o : Row)
    (ho : o ∈ out) : colsOf init out o.key = o.cols :=
  colsOf_mem init out hnd o ho

/-- The cell (output key `k`, selected field `i` = table field `j`, out period `T`) of
    `groupRows` is the merge, over exactly the scan rows whose key agrees with `k` on the kept
    dims (in scan order), of exactly the source periods of the bucket `(T − res, T]` inside the
    window — "fewer dims merges exactly the keys that agree on the kept dims"; outside the window
    it is empty. -/
theorem sem_groupRows {cfg : TableCfg} {now : Int} {q : Query} {pl : Plan} {inFields : List Field}
    {rows : List Row} {kk i j : Nat} {f : Field} (H : GroupCell cfg now q pl inFields rows kk i f j)
    (metas : List KeyMeta) (k : Key) (T : Int) (hT : (gUntilOf cfg now pl - T) % gResOf cfg pl = 0) :
    (groupCell cfg now q pl inFields metas rows k i).at f.ex (gResOf cfg pl) T =
      if gAsOfOf cfg now pl < T ∧ T ≤ gUntilOf cfg now pl
      then mergeAllOnto f.ex cfg.res (groupSrcs q metas rows k j)
        (bucketTimes cfg.res kk (gAsOfOf cfg now pl) (gUntilOf cfg now pl) T) f.ex.empty
      else f.ex.empty :=
  groupCell_at H metas k T hT

/-- C07 at the level of the group operator: the cell column holds nothing for any period end
    outside `(asOf, until]` (on the out grid or not) -/
theorem groupRows_window_exact {cfg : TableCfg} {now : Int} {q : Query} {pl : Plan} {inFields : List Field}
    {rows : List Row} {kk i j : Nat} {f : Field} (H : GroupCell cfg now q pl inFields rows kk i f j)
    (metas : List KeyMeta) (k : Key) (T : Int) (hout : ¬ (gAsOfOf cfg now pl < T ∧ T ≤ gUntilOf cfg now pl)) :
    (groupCell cfg now q pl inFields metas rows k i).at f.ex (gResOf cfg pl) T = f.ex.empty :=
  (groupCell_inv H metas k).2 T hout

/-- The cell read on raw points: if every contributing stored state is the accumulation of the raw
    points `pts r t` of its (scan row, period), the cell is the accumulation of all raw points of
    the bucket: those of the scan rows that agree with `k` on the kept dims, in the native periods
    of `(T − res, T]` inside the window — each point once. -/
theorem sem_groupRows_points (x : Ext) {cfg : TableCfg} {now : Int} {q : Query} {pl : Plan}
    {inFields : List Field} {rows : List Row} {kk i j : Nat} {f : Field}
    (H : GroupCell cfg now q pl inFields rows kk i f j) (metas : List KeyMeta)
    (k : Key) (T : Int) (hT : (gUntilOf cfg now pl - T) % gResOf cfg pl = 0)
    (hW : gAsOfOf cfg now pl < T ∧ T ≤ gUntilOf cfg now pl) (pts : Row → Int → List Pt)
    (hstore : ∀ r ∈ groupMembers q rows k,
      ∀ t ∈ bucketTimes cfg.res kk (gAsOfOf cfg now pl) (gUntilOf cfg now pl) T,
        (r.cols.getD j none).at f.ex cfg.res t = f.ex.acc x (pts r t)) :
    (groupCell cfg now q pl inFields metas rows k i).at f.ex (gResOf cfg pl) T =
      f.ex.acc x (memberPoints pts (groupMembers q rows k)
        (bucketTimes cfg.res kk (gAsOfOf cfg now pl) (gUntilOf cfg now pl) T)) :=
  groupCell_at_points x H metas k T hT hW pts hstore

/-- accumulation does not depend on the order of the points -/
theorem acc_order_irrelevant (x : Ext) {e : Ex} (hv : e.valid = true) (hp : e.noPtile = true) {l1 l2 : List Pt}
    (h : l1.Perm l2) : e.acc x l1 = e.acc x l2 :=
  acc_perm x hv hp h

/-- `specQuery` is the planner call followed by `specOut` on the accepted rows -/
theorem specQuery_is_specOut (x : Ext) (cfg : TableCfg) (dup : Bool) (ps : List RawPoint) (q : Query)
    (metas : List KeyMeta) :
    specQuery x cfg dup ps q metas =
      match planLocal cfg (acceptedRows cfg dup ps).2 q with
      | .error e => .error e
      | .ok pl => .ok (specOut x cfg q metas (acceptedRows cfg dup ps).1 (acceptedRows cfg dup ps).2 pl) :=
  specQuery_eq x cfg dup ps q metas

/-- Given the store invariant `hstore` (state of scan row `r` at native period `t` =
    accumulation of the accepted rows of `(r.key, t)`), one scan row per key (`hkeys`), a scan row
    for every key that has an accepted row inside the window (`hcover`) and accepted rows on the
    table's period grid (`hper`): the grouped cell `(k, field i, T)` is the accumulation the spec
    performs over the bucket `(k, T)`. -/
theorem sem_groupRows_spec (x : Ext) {cfg : TableCfg} {now : Int} {q : Query} {pl : Plan}
    {inFields : List Field} {rows : List Row} {kk i j : Nat} {f : Field}
    (H : GroupCell cfg now q pl inFields rows kk i f j) (metas : List KeyMeta)
    (k : Key) (T : Int) (hT : (gUntilOf cfg now pl - T) % gResOf cfg pl = 0)
    (hW : gAsOfOf cfg now pl < T ∧ T ≤ gUntilOf cfg now pl)
    (A : List AccRow) (adj : AccRow → Pt)
    (hper : ∀ a ∈ A, a.period % cfg.res = 0) (hkeys : (rows.map (·.key)).Nodup)
    (hcover : ∀ a ∈ A, gAsOfOf cfg now pl < a.period ∧ a.period ≤ gUntilOf cfg now pl → ∃ r ∈ rows, r.key = a.key)
    (hstore : ∀ r ∈ rows, ∀ t, gAsOfOf cfg now pl < t ∧ t ≤ gUntilOf cfg now pl →
      (r.cols.getD j none).at f.ex cfg.res t = f.ex.acc x (keyPeriodPts A adj r.key t)) :
    (groupCell cfg now q pl inFields metas rows k i).at f.ex (gResOf cfg pl) T =
      f.ex.acc x (specBucketPts q A adj (gAsOfOf cfg now pl) (gUntilOf cfg now pl) (gResOf cfg pl) k T) :=
  groupCell_at_spec x H metas k T hT hW A adj hper hkeys hcover hstore

/-- for a selected expression without IF the spec's adjustment of the points (conditions evaluated
    on the source key) is immaterial: the hypothesis `hstore` may equally be stated on the accepted
    rows' own points -/
theorem spec_bucket_conds_irrelevant (x : Ext) {e : Ex} (h : e.noIf = true) (metas : List KeyMeta)
    (l : List AccRow) : e.acc x (l.map (specAdj metas)) = e.acc x (l.map (·.pt)) :=
  acc_map_specAdj x h metas l

/-! ## Non-vacuity: the hypotheses hold, and the statements say the right thing, on concrete data -/

def exE : Ex := .agg .sum (.field "a")
def exC : Ex := .agg .count (.field "b")
/-- native periods ending at 100, 90, 80, 70, 60 (resolution 10) holding 1, 2, 3, 4, 5 -/
def exSrc : Seq := ⟨100, [[.agg (some 1)], [.agg (some 2)], [.agg (some 3)], [.agg (some 4)], [.agg (some 5)]]⟩
/-- out periods ending at 100, 80, 60 (resolution 20) holding 10, 20, 30 -/
def exRecv : Seq := ⟨100, [[.agg (some 10)], [.agg (some 20)], [.agg (some 30)]]⟩

example : exE.valid = true ∧ exE.noPtile = true ∧ exE.shiftOf = 0 := by decide
example : SMWindow 20 10 2 70 100 := ⟨by decide, by decide, by decide, by decide, by decide, by decide, by decide⟩
example : SqOk 10 (some exSrc) := ⟨by decide, by decide, by decide⟩
example : SqWF exE (some exSrc) := by
  intro c hc
  simp [exSrc] at hc
  rcases hc with rfl | rfl | rfl | rfl | rfl <;> rfl
example : RecvGrid exE 20 100 (some ⟨100, [[.agg (some 3)], [.agg (some 3)]]⟩) := by
  refine ⟨by decide, by decide, ?_⟩
  intro c hc
  simp at hc
  rcases hc with rfl | rfl <;> rfl

/-- window (70, 100], out period 20 = 2 × 10, window length 30 (not a multiple of 20): the out
    period (60, 80] is cut by asOf — it is kept, with period 80 only (70 is outside the window) -/
example : bucketTimes 10 2 70 100 100 = [100, 90] ∧ bucketTimes 10 2 70 100 80 = [80] ∧
    bucketTimes 10 2 70 100 60 = [] := by decide
example : Sq.subMerge exE exE (.direct exE) 20 10 none (some exSrc) default 70 100 0 =
    some ⟨100, [[.agg (some 3)], [.agg (some 3)]]⟩ := by decide +kernel
example : mergeOnto exE 10 (some exSrc) (bucketTimes 10 2 70 100 100) exE.empty = [.agg (some 3)] ∧
    mergeOnto exE 10 (some exSrc) (bucketTimes 10 2 70 100 80) exE.empty = [.agg (some 3)] := by decide +kernel

/-- hit: the receiver's period 60 (outside the window) is dropped, the others are merged onto -/
example : Sq.subMerge exE exE (.direct exE) 20 10 (some exRecv) (some exSrc) default 70 100 0 =
    some ⟨100, [[.agg (some 13)], [.agg (some 23)]]⟩ := by decide +kernel
/-- miss: the source lies wholly outside the window — the receiver comes back untouched, still
    holding its period 60 ≤ asOf -/
example : Sq.subMerge exE exE (.direct exE) 20 10 (some exRecv) (some ⟨50, [[.agg (some 7)]]⟩) default 70 100 0 =
    some exRecv := by decide +kernel
example : (Sq.truncate (some ⟨50, [[.agg (some 7)]]⟩ : Sq) 10 70 100).numPeriods = 0 ∧
    (Sq.truncate (some exSrc) 10 70 100).numPeriods ≠ 0 := by decide +kernel

/-! a grouped query: table fields `a = SUM(a)`, `b = COUNT(b)` at resolution 10; the query selects
    `b` then `a`, GROUP BY x (dropping y), period 20, ASOF 1950 (window (1950, 2000], 2.5 periods) -/

def exCfg : TableCfg := { fields := [⟨"a", exE⟩, ⟨"b", exC⟩], res := 10, retention := 1000, groupBy := none }
def exQ : Query :=
  { outFields := [⟨"b", exC⟩, ⟨"a", exE⟩], groupByAll := false, groupBy := ["x"], resolution := 20, asOf := 1950,
    hasSpecificFields := true }
def exPl : Plan := match planLocal exCfg 2000 exQ with | .ok p => p | .error _ => default
def exColA (n : Nat) : Sq := some ⟨2000, [[.agg (some n)], [.agg (some 1)]]⟩
def exColB (n : Nat) : Sq :=
  some ⟨2000, [[.agg (some n)], [.agg (some 2)], [.agg (some 4)], [.agg (some 8)], [.agg (some 16)], [.agg (some 32)]]⟩
def exRows : List Row :=
  [⟨[("x", "1"), ("y", "a")], [exColA 1, exColB 1]⟩, ⟨[("x", "2"), ("y", "a")], [exColA 2, exColB 2]⟩,
   ⟨[("x", "1"), ("y", "b")], [exColA 3, exColB 3]⟩]

example : planLocal exCfg 2000 exQ = .ok exPl := by rfl
example : includedFields exCfg exQ = exCfg.fields := by decide +kernel
example : exPl.strideSlice = 0 ∧ gResOf exCfg exPl = 20 ∧ gAsOfOf exCfg 2000 exPl = 1950 ∧
    gUntilOf exCfg 2000 exPl = 2000 := by decide +kernel
/-- key x=1 merges the two scan rows (x=1,y=a), (x=1,y=b) and not (x=2,y=a); out period 1960 is
    cut by ASOF and holds native period 1960 only: 16 + 16 -/
example : (groupRows exCfg 2000 exQ exPl exCfg.fields [] exRows).1.map (fun r => (r.key, r.cols.getD 0 none)) =
    [([("x", "1")], some ⟨2000, [[.agg (some 8)], [.agg (some 24)], [.agg (some 32)]]⟩),
     ([("x", "2")], some ⟨2000, [[.agg (some 4)], [.agg (some 12)], [.agg (some 16)]]⟩)] := by decide +kernel
example : (groupSrcs exQ [] exRows [("x", "1")] 1).map (·.1) = [exColB 1, exColB 3] := by decide +kernel

/-- the hypotheses of `sem_groupRows` (`GroupCell`) hold together on this query — selected field 0
    (`b`) = table field 1 — so its conclusion is a statement about the cells computed above -/
example (k : Key) (T : Int) (hT : (gUntilOf exCfg 2000 exPl - T) % gResOf exCfg exPl = 0) :
    (groupCell exCfg 2000 exQ exPl exCfg.fields [] exRows k 0).at exC (gResOf exCfg exPl) T =
      if gAsOfOf exCfg 2000 exPl < T ∧ T ≤ gUntilOf exCfg 2000 exPl
      then mergeAllOnto exC exCfg.res (groupSrcs exQ [] exRows k 1)
        (bucketTimes exCfg.res (gResOf exCfg exPl / exCfg.res).toNat (gAsOfOf exCfg 2000 exPl) (gUntilOf exCfg 2000 exPl) T)
        exC.empty
      else exC.empty := by
  have exDistinct : ∀ (i i' : Nat) (a b : Ex), i ≠ i' → (exCfg.fields.map (·.ex))[i]? = some a →
      (exCfg.fields.map (·.ex))[i']? = some b → a.sameStr b = false := by
    intro i i' a b hne h1 h2
    have h1' : ([exE, exC] : List Ex)[i]? = some a := h1
    have h2' : ([exE, exC] : List Ex)[i']? = some b := h2
    rcases i with _ | _ | i <;> rcases i' with _ | _ | i' <;>
      simp at h1' h2' hne <;> (try (obtain ⟨rfl, rfl⟩ := And.intro h1' h2'; decide))
  have H : GroupCell exCfg 2000 exQ exPl exCfg.fields exRows (gResOf exCfg exPl / exCfg.res).toNat 0 ⟨"b", exC⟩ 1 := by
    refine ⟨by decide +kernel,
      planLocal_establishes_window exCfg 2000 exQ exPl (by rfl) (by decide) (by decide +kernel),
      rfl, by decide, by decide, by decide, ⟨⟨"b", exC⟩, rfl, rfl⟩,
      direct_submerger_of_table_aggregate _ .count (.field "b") 1 rfl exDistinct, ?_⟩
    intro r hr
    simp [exRows] at hr
    rcases hr with h | h | h <;> subst h <;>
      refine ⟨by decide, ⟨by decide, by decide, by decide⟩, ?_⟩ <;>
      (intro c hc; simp at hc; rcases hc with rfl | rfl | rfl | rfl | rfl | rfl <;> rfl)
  exact sem_groupRows H [] k T hT

/-! `sem_groupRows_spec` on concrete data: six accepted rows (the last one at native period 1950 ≤ ASOF), the
    scan rows that hold their per-(key, period) accumulations, and the bucket (x=1, T=2000) -/

def exPt : Pt := { vals := [("b", 1)] }
def exA : List AccRow :=
  [⟨[("x", "1"), ("y", "a")], 2000, exPt⟩, ⟨[("x", "1"), ("y", "b")], 1990, exPt⟩, ⟨[("x", "1"), ("y", "a")], 1990, exPt⟩,
   ⟨[("x", "2"), ("y", "a")], 2000, exPt⟩, ⟨[("x", "1"), ("y", "a")], 1960, exPt⟩, ⟨[("x", "1"), ("y", "b")], 1950, exPt⟩]
def exOne : List Cell := [.agg (some 1)]
def exNone : List Cell := [.agg none]
def exScan : List Row :=
  [⟨[("x", "1"), ("y", "a")], [none, some ⟨2000, [exOne, exOne, exNone, exNone, exOne]⟩]⟩,
   ⟨[("x", "1"), ("y", "b")], [none, some ⟨1990, [exOne, exNone, exNone, exNone, exOne]⟩]⟩,
   ⟨[("x", "2"), ("y", "a")], [none, some ⟨2000, [exOne]⟩]⟩]

example : (∀ a ∈ exA, a.period % exCfg.res = 0) ∧ (exScan.map (·.key)).Nodup ∧
    (∀ a ∈ exA, 1950 < a.period ∧ a.period ≤ 2000 → ∃ r ∈ exScan, r.key = a.key) := by decide +kernel
/-- the store invariant on the example, for every native period end of the window and beyond -/
example : ∀ r ∈ exScan, ∀ t ∈ [1940, 1950, 1960, 1970, 1980, 1990, 2000, 2010],
    (r.cols.getD 1 none).at exC 10 t = exC.acc default (keyPeriodPts exA (·.pt) r.key t) := by decide +kernel
/-- both sides of `sem_groupRows_spec`: 3 rows in bucket (x=1, 2000), 1 in (x=1, 1960) — the row
    at 1950 is outside the window — and 1 in (x=2, 2000) -/
example : (specBucketPts exQ exA (·.pt) 1950 2000 20 [("x", "1")] 2000).length = 3 ∧
    (specBucketPts exQ exA (·.pt) 1950 2000 20 [("x", "1")] 1960).length = 1 := by decide +kernel
example :
    (groupCell exCfg 2000 exQ exPl exCfg.fields [] exScan [("x", "1")] 0).at exC 20 2000 =
      exC.acc default (specBucketPts exQ exA (·.pt) 1950 2000 20 [("x", "1")] 2000) ∧
    (groupCell exCfg 2000 exQ exPl exCfg.fields [] exScan [("x", "1")] 0).at exC 20 1960 =
      exC.acc default (specBucketPts exQ exA (·.pt) 1950 2000 20 [("x", "1")] 1960) := by decide +kernel

end Zeno.SubMergeSem


/-! ## The same results under the names of the properties they complete

`tools/props.py` audits the namespaces `Zeno.C06` / `Zeno.C07`; with this module in their "lean"
lists the whole-function theorems become proof obligations of those properties. -/

namespace Zeno.C06
open Zeno

/-- C06, `Sequence.SubMerge` as a whole (= `SubMergeSem.sem_subMerge`): a coarser period
    re-aggregates the stored per-period states without loss or overlap -/
theorem subMerge_whole_function {e : Ex} (hv : e.valid = true) (hp : e.noPtile = true) (hshift : e.shiftOf = 0)
    {res otherRes : Int} {k : Nat} {asOf hi : Int}
    (hor : 0 < otherRes) (hk : 0 < k) (hres : res = (k : Int) * otherRes)
    (ha0 : 0 < asOf) (hlt : asOf < hi) (haa : asOf % otherRes = 0) (hha : hi % otherRes = 0)
    (s other : Sq) (p : Pt) (ho : SqOk otherRes other) (hwo : SqWF e other)
    (hg : RecvGrid e res hi s) (hin : InWindow e res asOf hi s)
    (T : Int) (hT : (hi - T) % res = 0) :
    (Sq.subMerge e e (.direct e) res otherRes s other p asOf hi 0).at e res T =
      if asOf < T ∧ T ≤ hi
      then mergeOnto e otherRes other (bucketTimes otherRes k asOf hi T) (s.at e res T)
      else e.empty :=
  Zeno.SubMergeSem.sem_subMerge hv hp hshift hor hk hres ha0 hlt haa hha s other p ho hwo hg hin T hT

/-- C06, `core.Group` (= `SubMergeSem.sem_groupRows`): coarser period and fewer dims — the cell is
    the merge over exactly the keys that agree on the kept dims of exactly the bucket's periods -/
theorem group_cell_is_bucket_merge {cfg : TableCfg} {now : Int} {q : Query} {pl : Plan} {inFields : List Field}
    {rows : List Row} {kk i j : Nat} {f : Field} (H : GroupCell cfg now q pl inFields rows kk i f j)
    (metas : List KeyMeta) (k : Key) (T : Int) (hT : (gUntilOf cfg now pl - T) % gResOf cfg pl = 0) :
    (groupCell cfg now q pl inFields metas rows k i).at f.ex (gResOf cfg pl) T =
      if gAsOfOf cfg now pl < T ∧ T ≤ gUntilOf cfg now pl
      then mergeAllOnto f.ex cfg.res (groupSrcs q metas rows k j)
        (bucketTimes cfg.res kk (gAsOfOf cfg now pl) (gUntilOf cfg now pl) T) f.ex.empty
      else f.ex.empty :=
  Zeno.SubMergeSem.sem_groupRows H metas k T hT

/-- C06, against the raw-point spec (= `SubMergeSem.sem_groupRows_spec`): given the store invariant,
    the grouped cell is the accumulation `specQuery` performs over the bucket -/
theorem group_cell_is_spec_bucket (x : Ext) {cfg : TableCfg} {now : Int} {q : Query} {pl : Plan}
    {inFields : List Field} {rows : List Row} {kk i j : Nat} {f : Field}
    (H : GroupCell cfg now q pl inFields rows kk i f j) (metas : List KeyMeta)
    (k : Key) (T : Int) (hT : (gUntilOf cfg now pl - T) % gResOf cfg pl = 0)
    (hW : gAsOfOf cfg now pl < T ∧ T ≤ gUntilOf cfg now pl)
    (A : List AccRow) (adj : AccRow → Pt)
    (hper : ∀ a ∈ A, a.period % cfg.res = 0) (hkeys : (rows.map (·.key)).Nodup)
    (hcover : ∀ a ∈ A, gAsOfOf cfg now pl < a.period ∧ a.period ≤ gUntilOf cfg now pl → ∃ r ∈ rows, r.key = a.key)
    (hstore : ∀ r ∈ rows, ∀ t, gAsOfOf cfg now pl < t ∧ t ≤ gUntilOf cfg now pl →
      (r.cols.getD j none).at f.ex cfg.res t = f.ex.acc x (keyPeriodPts A adj r.key t)) :
    (groupCell cfg now q pl inFields metas rows k i).at f.ex (gResOf cfg pl) T =
      f.ex.acc x (specBucketPts q A adj (gAsOfOf cfg now pl) (gUntilOf cfg now pl) (gResOf cfg pl) k T) :=
  Zeno.SubMergeSem.sem_groupRows_spec x H metas k T hT hW A adj hper hkeys hcover hstore

end Zeno.C06

namespace Zeno.C07
open Zeno

/-- C07, `core.Group` (= `SubMergeSem.groupRows_window_exact`): nothing outside `(asOf, until]` -/
theorem group_window_exact {cfg : TableCfg} {now : Int} {q : Query} {pl : Plan} {inFields : List Field}
    {rows : List Row} {kk i j : Nat} {f : Field} (H : GroupCell cfg now q pl inFields rows kk i f j)
    (metas : List KeyMeta) (k : Key) (T : Int) (hout : ¬ (gAsOfOf cfg now pl < T ∧ T ≤ gUntilOf cfg now pl)) :
    (groupCell cfg now q pl inFields metas rows k i).at f.ex (gResOf cfg pl) T = f.ex.empty :=
  Zeno.SubMergeSem.groupRows_window_exact H metas k T hout

end Zeno.C07
