/-
C17 — concurrent queries on a table each get the result they would get alone.

Model (Model/Coalesce.lean): `doProcessIterations` = table.go after the fixes of D3/D8/D15
(`scanLoop` drives `combined` = `combinedOnValue` over the rows of one shared
`rowStore.iterate`; `Iter.step` = fresh `itVals`, `mapBack` through `indexOfOutField`, the
callback, the iteration's own guard, removal from `remainingIterations`; fan-out of own
outcome / scan error), `Table.scan` = the row source, `…Buggy` = the code as found.

Specification (Lemmas/Coalesce.lean, namespace `Zeno.CoalesceSpec`): `lookupField` /
`projectRow` (the value of a field in a positional row), `consume` (ONE iteration fed a list
of rows laid out for it until it says stop, fails or times out), `alone it rows fail` (what a
query running alone gets from a scan yielding `rows` and ending with `fail`).

What the theorems say.  For every batch (any size), every row stream (any length), every
consumer state machine:
* `coalesced_spec`: the batch result is, iteration by iteration, `alone it (rows projected
  onto it.fields) fail` — a `List.map` over the iterations: nothing of iteration j enters the
  result of iteration i except through the two things that are shared BY DESIGN, the field
  union (which the projection removes again) and the OR of `includeMemStore`.
* `coalesced_equals_solo` (over a `Table`) / `coalesced_equals_solo_stream` (any source):
  that result equals the result of the batch `[it]`.
Hypotheses that cannot be dropped (each with a refuting `example` below):
  duplicate-free field list (`indexOfOutField` = first match), `it.includeMem = OR of the
  batch` (`includeMem_or_leaks`: a disk-only query coalesced with a fresh one is handed
  memstore data — what the code does, reported as known finding), and `Covers`: no file row
  is blank for the iteration (otherwise the coalesced iteration sees such rows with all-nil
  values while the solo scan skips them; no consumer in the repo reacts to an all-nil row).
The pre-fix functions violate the property: `d8_error_aborts_everyone`,
`d3_d8_rows_lost_silently`, `d8_deadline_inherited`, `d8_finished_query_gets_foreign_error`,
`d15_blank_row_ends_solo_scan`.
-/
import ZenoModel.Lemmas.Coalesce

namespace Zeno.CoalesceSpec
open Zeno.Coalesce

/-- rows of the shared scan laid out for `it` -/
def laidOut {σ : Type} (its : List (Iter σ)) (it : Iter σ) (rows : List Row) : List Recv :=
  rows.map (projectRow (unionFields its []) it.fields)

/-- no file row of the view is blank for the iteration (it requests at least one column every
    file row has; always true for queries over the table's own fields on an unaltered table) -/
def Covers {σ : Type} (t : Table) (it : Iter σ) : Prop :=
  ∀ r ∈ t.view it.includeMem, r.blankFor it.fields = false

end Zeno.CoalesceSpec

/-! ## fixtures of the examples and witnesses
(own namespace: their equation lemmas are not proof obligations of `Zeno.C17`) -/
namespace Zeno.CoalesceEx
open Zeno.Coalesce

/-- table fields -/
def A : FieldId := "a (SUM(a))"
def B : FieldId := "b (SUM(b))"
/-- same NAME as `A`, different expression: a different column -/
def A' : FieldId := "a (MAX(a))"

def fileRow (k : String) (a b : Nat) : TRow := { key := k, cols := [(A, some a), (B, some b)] }
def memRow (k : String) (a b : Nat) : TRow :=
  { key := k, cols := [(A, some a), (B, some b)], mem := true }

def tbl : Table :=
  { disk := [fileRow "k1" 1 2, fileRow "k2" 3 4, fileRow "k3" 5 6],
    fresh := [fileRow "k1" 11 12, fileRow "k2" 3 4, fileRow "k3" 5 6, memRow "k4" 7 8] }

def tblMemOnly : Table :=
  { disk := [], fresh := [memRow "k1" 1 2, memRow "k2" 3 4, memRow "k3" 5 6] }

def q (fields : List FieldId) (c : Nat → String → List Val → Nat × Bool × Option Err)
    (mem : Bool := true) (dl : Option Nat := none) : Iter Nat :=
  { fields := fields, includeMem := mem, deadline := dl, onValue := c, init := 0 }

def out (rs : List (ItResult Nat)) : List (List Recv × Option Err) :=
  rs.map (fun r => (r.recv, r.err))

def bq (fields : List FieldId) (c : Nat → String → List Val → Nat × Bool × Option Err)
    (dl : Option Nat := none) : Iter Nat :=
  { fields := fields, deadline := dl, onValue := c, init := 0 }

def rows3 (mem : Bool) : Table :=
  let r (k : String) (v : Nat) : TRow := { key := k, cols := [("a", some v)], mem := mem }
  { disk := if mem then [] else [r "k1" 1, r "k2" 2, r "k3" 3],
    fresh := [r "k1" 1, r "k2" 2, r "k3" 3] }

def outB (rs : List (ItResult Nat)) : List (List Recv × Option Err) :=
  rs.map (fun r => (r.recv, r.err))

end Zeno.CoalesceEx

namespace Zeno.C17
open Zeno.Coalesce Zeno.CoalesceSpec Zeno.CoalesceEx

/-! ## field union -/

/-- every requested field is in the union, exactly once, and nothing else is -/
theorem union_covers {σ : Type} (its : List (Iter σ)) :
    (unionFields its []).Nodup ∧
    (∀ it ∈ its, ∀ f ∈ it.fields, f ∈ unionFields its [] ∧ (unionFields its []).count f = 1) ∧
    (∀ f ∈ unionFields its [], ∃ it ∈ its, f ∈ it.fields) := by
  have hnd := unionFields_nodup its [] List.nodup_nil
  refine ⟨hnd, ?_, ?_⟩
  · intro it hit f hf
    have hm := mem_unionFields_of_mem hit hf
    exact ⟨hm, hnd.count.trans (if_pos hm)⟩
  · intro f hf
    rcases (mem_unionFields its [] f).mp hf with h | h
    · simp at h
    · exact h

/-- a query alone scans exactly its own (duplicate-free) field list, with its own
    `includeMemStore` -/
theorem union_of_one {σ : Type} (it : Iter σ) (h : it.fields.Nodup) :
    unionFields [it] [] = it.fields ∧ orMem [it] = it.includeMem := by
  exact ⟨unionFields_single it h, by simp [orMem]⟩

/-- the shared scan includes the memstore iff somebody asked for it -/
theorem orMem_iff {σ : Type} (its : List (Iter σ)) :
    orMem its = true ↔ ∃ it ∈ its, it.includeMem = true := by
  simp [orMem]

/-! ## mapping back -/

/-- `itVals` is the projection of the shared row onto the iteration's own fields, in its own
    order (nil for a field the scan does not carry) -/
theorem mapping_is_projection {σ : Type} (its : List (Iter σ)) (it : Iter σ) (vals : List Val)
    (hnd : it.fields.Nodup) :
    mapBack (unionFields its []) it.fields vals =
      it.fields.map (lookupField (unionFields its []) vals) :=
  mapBack_eq_project _ _ _ (unionFields_nodup its [] List.nodup_nil) hnd

/-- …and over a table row the projection does not depend on the union at all: it is the
    row's own value of each requested field -/
theorem no_cross_talk {σ : Type} (its : List (Iter σ)) (it : Iter σ) (hit : it ∈ its)
    (hnd : it.fields.Nodup) (r : TRow) :
    mapBack (unionFields its []) it.fields (r.project (unionFields its [])).vals =
      it.fields.map r.get := by
  rw [mapping_is_projection its it _ hnd]
  apply List.map_congr_left
  intro f hf
  exact lookupField_map _ r.get f (mem_unionFields_of_mem hit hf)

/-! ## the batch, iteration by iteration -/

theorem runIter_eq_alone {σ : Type} (its : List (Iter σ)) (it : Iter σ) (hnd : it.fields.Nodup)
    (rows : List Row) (fail : Option Err) :
    (runIter it (unionFields its []) 0 rows it.start).result fail =
      alone it (laidOut its it rows) fail := by
  rw [runIter_eq_consume, alone, laidOut]
  congr 2
  apply List.map_congr_left
  intro r _
  rw [projectRow, mapping_is_projection its it r.vals hnd]

/-- Every iteration of a batch gets exactly what it would get alone from the same rows
    projected onto its own fields: same callback inputs in the same order up to and including
    the row at which it stops / fails / times out, same final state, same error. -/
theorem coalesced_spec {σ : Type} (scan : List FieldId → Bool → Stream) (its : List (Iter σ))
    (hnd : ∀ it ∈ its, it.fields.Nodup) :
    doProcessIterations scan its =
      its.map (fun it => alone it (laidOut its it (scan (unionFields its []) (orMem its)).rows)
        (scan (unionFields its []) (orMem its)).fail) := by
  rw [doProcessIterations_eq_map]
  exact List.map_congr_left fun it hit => runIter_eq_alone its it (hnd it hit) _ _

/-- same statement for one position of the batch, needing only THAT iteration's field list to
    be duplicate-free -/
theorem coalesced_spec_at {σ : Type} (scan : List FieldId → Bool → Stream) (its : List (Iter σ))
    (i : Nat) (it : Iter σ) (hi : its[i]? = some it) (hnd : it.fields.Nodup) :
    (doProcessIterations scan its)[i]? =
      some (alone it (laidOut its it (scan (unionFields its []) (orMem its)).rows)
        (scan (unionFields its []) (orMem its)).fail) := by
  rw [doProcessIterations_eq_map, List.getElem?_map, hi, Option.map_some,
    runIter_eq_alone its it hnd]

/-- a query alone gets the rows of its own scan as they are -/
theorem solo_spec {σ : Type} (scan : List FieldId → Bool → Stream) (it : Iter σ)
    (hnd : it.fields.Nodup)
    (hwf : ∀ r ∈ (scan it.fields it.includeMem).rows, r.vals.length = it.fields.length) :
    doProcessIterations scan [it] =
      [alone it ((scan it.fields it.includeMem).rows.map (fun r => (r.key, r.vals)))
        (scan it.fields it.includeMem).fail] := by
  rw [coalesced_spec scan [it] (by simpa using hnd)]
  simp only [List.map, laidOut, (union_of_one it hnd).1, (union_of_one it hnd).2]
  congr 2
  apply List.map_congr_left
  intro r hr
  simp [projectRow, map_lookupField_self it.fields r.vals hnd (hwf r hr)]

/-- **Coalesced = solo, any row source.**  If the scan the query would run alone sees the same
    data as the shared scan (same rows up to the projection onto its fields, same end), the
    query gets the same rows, the same final consumer state and the same error in the batch as
    alone — whatever the other iterations request, wherever they stop, fail or time out. -/
theorem coalesced_equals_solo_stream {σ : Type} (scan : List FieldId → Bool → Stream)
    (its : List (Iter σ)) (i : Nat) (it : Iter σ) (hi : its[i]? = some it) (hnd : it.fields.Nodup)
    (hwf : ∀ r ∈ (scan it.fields it.includeMem).rows, r.vals.length = it.fields.length)
    (hrows : (scan it.fields it.includeMem).rows.map (fun r => (r.key, r.vals)) =
      laidOut its it (scan (unionFields its []) (orMem its)).rows)
    (hfail : (scan it.fields it.includeMem).fail = (scan (unionFields its []) (orMem its)).fail) :
    (doProcessIterations scan its)[i]? = (doProcessIterations scan [it])[0]? := by
  rw [coalesced_spec_at scan its i it hi hnd, solo_spec scan it hnd hwf, hrows, hfail]
  rfl

/-! ## over a table -/

theorem blankFor_mono (r : TRow) (F U : List FieldId) (h : ∀ f ∈ F, f ∈ U)
    (hb : r.blankFor F = false) : r.blankFor U = false := by
  simp only [TRow.blankFor, Bool.and_eq_false_iff, Bool.not_eq_false', List.all_eq_false] at *
  rcases hb with hb | ⟨f, hf, hb⟩
  · exact Or.inl hb
  · exact Or.inr ⟨f, h f hf, hb⟩

/-- **Coalesced = solo, over a table.**  On the same table contents, a query whose
    `includeMemStore` equals the OR of the batch and that is not blank on any file row gets
    from ANY batch it is coalesced into exactly what it gets alone. -/
theorem coalesced_equals_solo {σ : Type} (t : Table) (its : List (Iter σ)) (i : Nat) (it : Iter σ)
    (hi : its[i]? = some it) (hnd : it.fields.Nodup) (hmem : it.includeMem = orMem its)
    (hcov : Covers t it) :
    (doProcessIterations t.scan its)[i]? = (doProcessIterations t.scan [it])[0]? := by
  have hit : it ∈ its := List.mem_of_getElem? hi
  have hsub : ∀ f ∈ it.fields, f ∈ unionFields its [] := fun _ => mem_unionFields_of_mem hit
  have hread : ∀ r ∈ (t.readable it.includeMem).1, r ∈ t.view it.includeMem := by
    intro r hr
    unfold Table.readable at hr
    cases hf : t.failAt with
    | none => simpa [hf] using hr
    | some p => rw [hf] at hr; exact List.mem_of_mem_take hr
  have hfilt : ∀ F : List FieldId, (∀ f ∈ it.fields, f ∈ F) →
      (t.readable it.includeMem).1.filter (fun r => !r.blankFor F) = (t.readable it.includeMem).1 := by
    intro F hF
    apply List.filter_eq_self.mpr
    intro r hr
    simp [blankFor_mono r it.fields F hF (hcov r (hread r hr))]
  apply coalesced_equals_solo_stream t.scan its i it hi hnd
  · intro r hr
    simp [Table.scan] at hr
    rcases hr with ⟨tr, _, rfl⟩
    simp [TRow.project]
  · rw [← hmem]
    simp only [Table.scan, laidOut, hfilt it.fields (fun _ h => h), hfilt _ hsub, List.map_map]
    apply List.map_congr_left
    intro r _
    simp only [Function.comp, TRow.project, projectRow, Prod.mk.injEq, true_and]
    apply List.map_congr_left
    intro f hf
    exact (lookupField_map _ r.get f (hsub f hf)).symm
  · rw [← hmem]; simp [Table.scan]

/-! ## stopping -/

/-- once an iteration has answered `more = false`, failed or timed out, no later row of the
    shared scan reaches it and nothing about it changes -/
theorem stopped_iteration_gets_nothing_more {σ : Type} (it : Iter σ) (n : Nat)
    (before after : List Recv) (s : ItState σ)
    (h : (consume it n before s).done.isSome) :
    consume it n (before ++ after) s = consume it n before s := by
  induction before generalizing n s with
  | nil => simpa [consume] using consume_done it n after s (by simpa [consume] using h)
  | cons rv rvs ih => simpa [consume] using ih (n + 1) _ (by simpa [consume] using h)

/-- an iteration receives a prefix of the projected rows: nothing skipped, nothing reordered,
    nothing invented -/
theorem receives_prefix {σ : Type} (it : Iter σ) (n : Nat) (rows : List Recv) (s : ItState σ) :
    ∃ k, (consume it n rows s).recv = s.recv ++ rows.take k :=
  (consume_recv it n rows s).imp fun _ h => h.1

/-- an iteration that is still listening when the rows run out has received every row -/
theorem unfinished_received_all {σ : Type} (it : Iter σ) (n : Nat) (rows : List Recv) (s : ItState σ)
    (h : (consume it n rows s).done = none) : (consume it n rows s).recv = s.recv ++ rows := by
  obtain ⟨k, hk, hl⟩ := consume_recv it n rows s
  rw [hk, List.take_of_length_le (hl h)]

/-! ## non-vacuity and the findings (concrete, evaluated by the kernel) -/

section Examples

/-- the fixed code on a mixed batch: different field subsets and orders, a LIMIT-like stop, a
    failing consumer, an expired deadline — everybody gets exactly their own projection -/
example : out (doProcessIterations tbl.scan
      [q [B, A] collect, q [A] (stopAt 2), q [B] (errAt 2 7), q [A] collect true (some 0)]) =
    [ ([("k1", [some 12, some 11]), ("k2", [some 4, some 3]), ("k3", [some 6, some 5]),
        ("k4", [some 8, some 7])], none),
      ([("k1", [some 11]), ("k2", [some 3])], none),
      ([("k1", [some 12]), ("k2", [some 4])], some (.consumer 7)),
      ([("k1", [some 11])], some .deadline) ] := by decide +kernel

/-- …and each of them alone gets the same -/
example : out (doProcessIterations tbl.scan [q [A] (stopAt 2)]) =
    [([("k1", [some 11]), ("k2", [some 3])], none)] := by decide +kernel
example : out (doProcessIterations tbl.scan [q [B] (errAt 2 7)]) =
    [([("k1", [some 12]), ("k2", [some 4])], some (.consumer 7))] := by decide +kernel
example : out (doProcessIterations tbl.scan [q [A] collect true (some 0)]) =
    [([("k1", [some 11])], some .deadline)] := by decide +kernel

/-- the hypotheses of `coalesced_equals_solo` are satisfiable -/
example : Covers tbl (q [A] (stopAt 2)) := by unfold Covers; decide

/-- `coalesced_equals_solo` applied: the LIMIT-like query at position 1 of the mixed batch -/
example :
    (doProcessIterations tbl.scan
      [q [B, A] collect, q [A] (stopAt 2), q [B] (errAt 2 7), q [A] collect true (some 0)])[1]? =
    (doProcessIterations tbl.scan [q [A] (stopAt 2)])[0]? :=
  coalesced_equals_solo tbl _ 1 (q [A] (stopAt 2)) rfl (by decide) (by decide)
    (by unfold Covers; decide)

/-- an I/O failure of the source reaches exactly those who were still listening -/
example : out (doProcessIterations ({ tbl with failAt := some (2, .source 5) } : Table).scan
      [q [A] collect, q [B] (stopAt 1)]) =
    [ ([("k1", [some 11]), ("k2", [some 3])], some (.source 5)), ([("k1", [some 12])], none) ] := by
  decide +kernel

/-- fields are told apart by their printed identity, not by their name -/
example : out (doProcessIterations tbl.scan [q [A] collect false, q [A'] collect false]) =
    [ ([("k1", [some 1]), ("k2", [some 3]), ("k3", [some 5])], none),
      ([("k1", [none]), ("k2", [none]), ("k3", [none])], none) ] := by decide +kernel

/-- the duplicate-free hypothesis is needed: `indexOfOutField` only fills the first position -/
example : out (doProcessIterations tbl.scan [q [A, A] collect false]) =
    [([("k1", [some 1, none]), ("k2", [some 3, none]), ("k3", [some 5, none])], none)] := by decide +kernel

end Examples

/-- **Shared by design, and a violation of the property as stated**: `includeMemStore` is
    OR-ed over the batch, so a query that asked for disk-only data is handed memstore data
    (a merged value 11 instead of 1, and the memstore-only row k4) when coalesced with a
    query that asked for fresh data.  This is what table.go does. -/
theorem includeMem_or_leaks :
    let t : Table :=
      { disk := [{ key := "k1", cols := [("a", some 1)] }],
        fresh := [{ key := "k1", cols := [("a", some 11)] },
                  { key := "k4", cols := [("a", some 7)], mem := true }] }
    let diskOnly : Iter Nat := { fields := ["a"], includeMem := false, onValue := collect, init := 0 }
    let fresh : Iter Nat := { fields := ["a"], includeMem := true, onValue := collect, init := 0 }
    ((doProcessIterations t.scan [diskOnly, fresh]).map (·.recv))[0]? =
        some [("k1", [some 11]), ("k4", [some 7])] ∧
    ((doProcessIterations t.scan [diskOnly]).map (·.recv))[0]? = some [("k1", [some 1])] := by
  decide +kernel

/-- `Covers` is needed: a file row without any of the iteration's columns is skipped by the
    solo scan but shows up (all-nil) in the coalesced one -/
theorem blank_rows_differ :
    let t : Table :=
      { disk := [], fresh := [{ key := "k1", cols := [("a", some 1)] },
                              { key := "k2", cols := [("a", some 2), ("b", some 3)] }] }
    let qb : Iter Nat := { fields := ["b"], onValue := collect, init := 0 }
    let qa : Iter Nat := { fields := ["a"], onValue := collect, init := 0 }
    ((doProcessIterations t.scan [qb, qa]).map (·.recv))[0]? =
        some [("k1", [none]), ("k2", [some 3])] ∧
    ((doProcessIterations t.scan [qb]).map (·.recv))[0]? = some [("k2", [some 3])] := by
  decide +kernel

/-! ## the code as found violates the property -/

/-- D8: a failing consumer aborts the shared scan; the healthy query loses every row and is
    handed the other query's error (alone it gets 3 rows and no error) -/
theorem d8_error_aborts_everyone :
    outB (doProcessIterationsBuggy (rows3 false).scanBuggy [bq ["a"] (errAt 1 9), bq ["a"] collect]) =
      [([("k1", [some 1])], some (.consumer 9)), ([], some (.consumer 9))] ∧
    outB (doProcessIterationsBuggy (rows3 false).scanBuggy [bq ["a"] collect]) =
      [([("k1", [some 1]), ("k2", [some 2]), ("k3", [some 3])], none)] ∧
    outB (doProcessIterations (rows3 false).scan [bq ["a"] (errAt 1 9), bq ["a"] collect]) =
      [([("k1", [some 1])], some (.consumer 9)),
       ([("k1", [some 1]), ("k2", [some 2]), ("k3", [some 3])], none)] := by
  refine ⟨by decide +kernel, by decide +kernel, by decide +kernel⟩

/-- D3 + D8: when the rows come from the memstore walk the error is dropped on top of it — the
    healthy query gets 0 of 3 rows and NO error -/
theorem d3_d8_rows_lost_silently :
    outB (doProcessIterationsBuggy (rows3 true).scanBuggy [bq ["a"] (errAt 1 9), bq ["a"] collect]) =
      [([("k1", [some 1])], none), ([], none)] := by
  decide +kernel

/-- D8: a query without deadline inherits the (expired) deadline of the query it is coalesced
    with: 1 of 3 rows, `deadline exceeded` -/
theorem d8_deadline_inherited :
    outB (doProcessIterationsBuggy (rows3 false).scanBuggy
        [bq ["a"] collect (some 0), bq ["a"] collect none]) =
      [([("k1", [some 1])], some .deadline), ([("k1", [some 1])], some .deadline)] := by
  decide +kernel

/-- D8: a query that had already finished (LIMIT reached) is handed a later error of another
    query -/
theorem d8_finished_query_gets_foreign_error :
    outB (doProcessIterationsBuggy (rows3 false).scanBuggy [bq ["a"] (stopAt 1), bq ["a"] (errAt 2 9)]) =
      [([("k1", [some 1])], some (.consumer 9)),
       ([("k1", [some 1]), ("k2", [some 2])], some (.consumer 9))] := by
  decide +kernel

/-- D15: alone, a query for a column the first file row does not have ends at that row (no
    error, memstore part never read); coalesced with a query for another column it sees
    everything -/
theorem d15_blank_row_ends_solo_scan :
    let t : Table :=
      { disk := [], fresh := [{ key := "k1", cols := [("a", some 1)] },
                              { key := "k2", cols := [("a", some 2), ("b", some 3)] },
                              { key := "k3", cols := [("b", some 4)], mem := true }] }
    outB (doProcessIterationsBuggy t.scanBuggy [bq ["b"] collect]) = [([], none)] ∧
    outB (doProcessIterationsBuggy t.scanBuggy [bq ["b"] collect, bq ["a"] collect]) =
      [([("k1", [none]), ("k2", [some 3]), ("k3", [some 4])], none),
       ([("k1", [some 1]), ("k2", [some 2]), ("k3", [none])], none)] ∧
    outB (doProcessIterations t.scan [bq ["b"] collect]) = [([("k2", [some 3]), ("k3", [some 4])], none)] := by
  intro t
  refine ⟨by decide +kernel, by decide +kernel, by decide +kernel⟩

end Zeno.C17
