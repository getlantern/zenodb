/-
C18 — a query observes the table as of a single instant.

Model (Model/Snapshot.lean, namespace `Zeno.Snap`): sequence buffers and `data` slices are
heap objects with identities; the live memstore tree and every scan's copy refer to them;
`ingest` writes in place into an existing buffer or stores a freshly allocated buffer into the
live node's `data` array; `flush` installs a new empty tree and a new file (a value);
`scanStart` = `Tree.Copy` (three variants: `shared` = the code as found, `arrays` = fresh
`data` slices only, `deep` = the repair: fresh slices and fresh buffers) + the file of that
instant; `deliver sid k` reads the row of `k` through the copy's references at that moment.
A history is any list of events; `ingestField` is one iteration of the field loop of one
insert, so histories also contain every interleaving of deliveries with half-applied inserts.

What the theorems say (all for the `deep` copy, for every `Cfg` — i.e. whatever the sequence
operations compute and whenever `Update` decides to write in place):
* `ownership`: in every reachable state, what any scan's copy can read (its arrays and the
  buffers they refer to) is disjoint from what the live tree can write (`Snap.Inv`).
* `scan_is_snapshot`: for every history `pre`, every scan started right after it and every
  continuation `post` (inserts — whole or field by field —, flushes, other scans, deliveries in
  any order), each row the scan delivers equals `view` of the state at its start.
* `undisturbed_scan_delivers_view`: `view` is what a scan delivers when nothing happens in
  between (so `view` is "the table as of that instant" and the hypothesis of the theorem above
  is satisfiable).
* `prefix_complete`: an insert that was applied (as a whole: `Ev.ingest`, which is what the
  write lock makes of it) before the scan started is reflected in every field of its row.
* `no_later_point`: a point no event before the scan start belongs to is reflected in NO
  delivered row, wherever it is inserted afterwards.
  ("reflected" is any relation `R` obeying `Snap.Keeps` / `Snap.Only`; `SnapEx.prov`, where a
  sequence value is the list of point ids it has absorbed, is an instance: `prov_keeps`,
  `prov_only`.)
The code as found violates the property (`shared_*`), and copying only the `data` slices
does not repair it (`arrays_*`).
-/
import ZenoModel.Lemmas.Snapshot
import ZenoModel.Generated.Facts

/-! ## fixtures (own namespace: their equation lemmas are not proof obligations of `Zeno.C18`) -/
namespace Zeno.SnapEx
open Zeno.Snap

/-- provenance instance: a sequence value is the list of ids of the points it has absorbed;
    a point is its id, its key is `id % 4`; ids below 100 hit an existing period (`Update` writes
    in place), the others make `Update` re-allocate -/
def prov (nf : Nat) : Cfg (List Nat) Nat where
  nf := nf
  keyOf := fun p => p % 4
  upd := fun _ c p => c.getD [] ++ [p]
  inPlace := fun _ _ p => p < 100
  merge := fun _ a b =>
    match a, b with
    | none, o => o
    | some x, none => some x
    | some x, some y => some (x ++ y)
  wr := fun row => some row

def reflects (c : List Nat) (p : Nat) : Prop := p ∈ c

/-- deliveries of a history from the empty table -/
def deliveries (mode : CopyMode) (es : List (Ev Nat)) : List (Delivery (List Nat)) :=
  (run (prov 2) mode {} es).2

/-- a concrete environment: the truncation bound (ids double as timestamps: a file column all of
    whose points are older than `tb` has expired and is dropped by `Merge`) and the field list
    (`rowMerger` / `rowMapper` map only the listed fields) -/
structure EnvX where
  tb : Nat
  fields : List Nat
  deriving Repr, DecidableEq

def provE (en : EnvX) : Cfg (List Nat) Nat :=
  { prov 2 with
    merge := fun f a b =>
      if en.fields.contains f then
        (prov 2).merge f (match a with
          | some x => if x.all (fun i => decide (i < en.tb)) then none else some x
          | none => none) b
      else none }

/-- variants of the scan path that re-read one component of the environment per row -/
def rrClock (captured current : EnvX) : EnvX := { captured with tb := current.tb }
def rrFields (captured current : EnvX) : EnvX := { captured with fields := current.fields }

def env0 : EnvX := { tb := 0, fields := [0, 1] }

/-- k0 and k1 in file and memstore; after the row of k0 the environment changes; then k1 -/
def envSchedule (e' : EnvX) : List (EEv Nat EnvX) :=
  [.base (.ingest 0), .base (.ingest 1), .base (.flush true), .base (.ingest 4), .base (.ingest 5),
   .base .scanStart, .base (.deliver 0 0), .setEnv e', .base (.deliver 0 1)]

def edeliveries (rr : EnvX → EnvX → EnvX) (es : List (EEv Nat EnvX)) : List (Delivery (List Nat)) :=
  (erun provE .deep rr { cur := env0 } es).2

end Zeno.SnapEx

namespace Zeno.C18
open Zeno.Snap Zeno.SnapEx

variable {C P : Type}

/-- the ownership invariant holds in every reachable state -/
theorem ownership (cfg : Cfg C P) (es : List (Ev P)) : Inv cfg (run cfg .deep {} es).1 :=
  inv_run es {} (inv_init cfg)

/-- Every row a scan delivers is the row of the table as of the scan's start, whatever is
    inserted, flushed, scanned or delivered in between. -/
theorem scan_is_snapshot (cfg : Cfg C P) (pre post : List (Ev P)) (k : Key) (r : Option (Row C))
    (h : ((run cfg .deep {} pre).1.scans.length, k, r) ∈
      (run cfg .deep (run cfg .deep {} pre).1 (Ev.scanStart :: post)).2) :
    r = view cfg (run cfg .deep {} pre).1 k := by
  have i := ownership cfg pre
  generalize (run cfg .deep {} pre).1 = s at h i ⊢
  obtain ⟨g, hv⟩ := good_scanStart i
  simp only [run, step, Option.toList, List.nil_append] at h
  rw [run_deliveries cfg post _ g.inv _ _ g.getElem?_new k r h]
  exact congrArg (rowOf _ _) (hv k)

/-- `view` is what a scan delivers when nothing happens between its start and the delivery. -/
theorem undisturbed_scan_delivers_view (cfg : Cfg C P) (pre : List (Ev P)) (k : Key) :
    (run cfg .deep (run cfg .deep {} pre).1
        [Ev.scanStart, Ev.deliver (run cfg .deep {} pre).1.scans.length k]).2 =
      [((run cfg .deep {} pre).1.scans.length, k, view cfg (run cfg .deep {} pre).1 k)] := by
  have i := ownership cfg pre
  generalize (run cfg .deep {} pre).1 = s at i ⊢
  obtain ⟨g, hv⟩ := good_scanStart i
  simp only [run, step, g.getElem?_new, Option.toList, List.nil_append, List.append_nil,
    deliverRow, view, hv]

/-- An insert applied before the scan started is reflected in every field of its row. -/
theorem prefix_complete (cfg : Cfg C P) (R : C → P → Prop) (kp : Keeps cfg R)
    (pre post : List (Ev P)) (p : P) (hp : Ev.ingest p ∈ pre) (r : Option (Row C))
    (h : ((run cfg .deep {} pre).1.scans.length, cfg.keyOf p, r) ∈
      (run cfg .deep (run cfg .deep {} pre).1 (Ev.scanStart :: post)).2)
    (f : Nat) (hf : f < cfg.nf) :
    ∃ row c, r = some row ∧ row.getD f none = some c ∧ R c p := by
  rw [scan_is_snapshot cfg pre post _ r h]
  exact has_view kp (has_run kp p pre {} (inv_init cfg) (Or.inr hp)) hf

/-- A point that no event before the scan start belongs to is reflected in no delivered row. -/
theorem no_later_point (cfg : Cfg C P) (R : C → P → Prop) (on : Only cfg R)
    (pre post : List (Ev P)) (q : P) (hq : ∀ e ∈ pre, e.point ≠ some q) (k : Key) (row : Row C)
    (h : ((run cfg .deep {} pre).1.scans.length, k, some row) ∈
      (run cfg .deep (run cfg .deep {} pre).1 (Ev.scanStart :: post)).2)
    (f : Nat) (c : C) (hc : row.getD f none = some c) : ¬ R c q := by
  have hv := (scan_is_snapshot cfg pre post k _ h).symm
  exact clean_view on (clean_run on pre {} (inv_init cfg) hq (clean_init R q)) hv hc

/-- the provenance instance obeys the laws "reflected" is constrained by -/
theorem prov_keeps (nf : Nat) : Keeps (prov nf) reflects := by
  refine ⟨?_, ?_, ?_, ?_, fun row f c q h1 h2 => ⟨row, c, rfl, h1, h2⟩⟩
  · intro f c p
    simp [prov, reflects]
  · intro f c p q h
    exact List.mem_append_left _ h
  · intro f a b q h
    cases b with
    | none => exact ⟨a, rfl, h⟩
    | some y => exact ⟨a ++ y, rfl, List.mem_append_left _ h⟩
  · intro f a b q h
    cases a with
    | none => exact ⟨b, rfl, h⟩
    | some x => exact ⟨x ++ b, rfl, List.mem_append_right _ h⟩

theorem prov_only (nf : Nat) : Only (prov nf) reflects := by
  refine ⟨?_, ?_, ?_⟩
  · intro f c p q h
    rcases List.mem_append.mp h with h | h
    · cases c with
      | none => cases h
      | some c0 => exact Or.inr ⟨c0, rfl, h⟩
    · exact Or.inl (List.mem_singleton.mp h)
  · intro f a b c q hm hR
    cases a <;> cases b <;> cases hm
    · exact Or.inr ⟨_, rfl, hR⟩
    · exact Or.inl ⟨_, rfl, hR⟩
    · exact (List.mem_append.mp hR).imp (⟨_, rfl, ·⟩) (⟨_, rfl, ·⟩)
  · intro row row' f c' q hw hg hR
    cases hw
    exact ⟨c', hg, hR⟩

/-! ### the scan's environment: clock / truncation bound, field lists, file store -/

/-- With everything a delivery uses taken from the record captured at `scanStart` (memstore copy,
    file store, and the environment: clock / truncation bound, field lists, …), each delivered
    row equals the table as of the scan's start — whatever happens to heap, file and environment
    (`setEnv`: clock advanced past retention boundaries, ALTER TABLE, …) in between. -/
theorem scan_is_snapshot_env {E : Type} (cfgOf : E → Cfg C P) (hs : SameShape cfgOf) (e0 : E)
    (pre post : List (EEv P E)) (k : Key) (r : Option (Row C))
    (h : ((erun cfgOf .deep keepCaptured { cur := e0 } pre).1.base.scans.length, k, r) ∈
      (erun cfgOf .deep keepCaptured (erun cfgOf .deep keepCaptured { cur := e0 } pre).1
        (EEv.base Ev.scanStart :: post)).2) :
    r = eview cfgOf (erun cfgOf .deep keepCaptured { cur := e0 } pre).1 k := by
  have i := einv_erun cfgOf hs keepCaptured pre _ (einv_init cfgOf e0)
  generalize (erun cfgOf .deep keepCaptured { cur := e0 } pre).1 = s at h i ⊢
  obtain ⟨g, hv⟩ := good_scanStart i.inv
  have g1 := egood_estep cfgOf hs keepCaptured s i (EEv.base Ev.scanStart)
  change (_, k, r) ∈ (erun cfgOf .deep keepCaptured
    { s with base := scanStart .deep s.base, envs := s.envs ++ [s.cur] } post).2 at h
  rw [erun_deliveries cfgOf hs post _ g1.inv _ _ s.cur g.getElem?_new
    (i.len ▸ List.getElem?_concat_length) k r h]
  exact congrArg (rowOf _ _) (hv k)

/-- `provE` changes only `merge` with the environment -/
theorem provE_sameShape : SameShape provE := fun _ _ => rfl

/-- Re-reading the clock per row (e.g. handing the method value `fs.t.truncateBefore` to
    `rowMerger`) breaks the property: after the clock moved past the retention boundary of k1's
    file data, the row of k1 has lost it, while the row of k0, delivered before, kept its own. -/
theorem reread_clock_breaks_snapshot :
    edeliveries rrClock (envSchedule { tb := 3, fields := [0, 1] }) =
      [(0, 0, some [some [0, 4], some [0, 4]]), (0, 1, some [some [5], some [5]])] ∧
    edeliveries keepCaptured (envSchedule { tb := 3, fields := [0, 1] }) =
      [(0, 0, some [some [0, 4], some [0, 4]]), (0, 1, some [some [1, 5], some [1, 5]])] :=
  ⟨by decide +kernel, by decide +kernel⟩

/-- Re-reading the table's field list per row breaks it: after an ALTER that drops field 1 the
    row of k1 comes without it. -/
theorem reread_fields_breaks_snapshot :
    edeliveries rrFields (envSchedule { tb := 0, fields := [0] }) =
      [(0, 0, some [some [0, 4], some [0, 4]]), (0, 1, some [some [1, 5], none])] ∧
    edeliveries keepCaptured (envSchedule { tb := 0, fields := [0] }) =
      [(0, 0, some [some [0, 4], some [0, 4]]), (0, 1, some [some [1, 5], some [1, 5]])] :=
  ⟨by decide +kernel, by decide +kernel⟩

/-- Re-reading the file store at delivery time breaks it: after a flush the new file already
    contains what the scan's memstore copy holds — the row counts point 0 twice. -/
theorem reread_file_breaks_snapshot :
    (match (run (prov 2) .deep {} [.ingest 0, .scanStart, .flush true]).1.scans[0]? with
      | some sc => deliverRowLiveFile (prov 2) (run (prov 2) .deep {} [.ingest 0, .scanStart, .flush true]).1 sc 0
      | none => none) = some [some [0, 0], some [0, 0]] ∧
    view (prov 2) (run (prov 2) .deep {} [.ingest 0]).1 0 = some [some [0], some [0]] :=
  ⟨by decide +kernel, by decide +kernel⟩

/-- Regenerated from row_store.go on every run (tools/extract/scanreads.go): the per-row code of
    the scan path reads nothing from the table / database but the logger, the (immutable) file
    name and resolution; it calls no captured function but the consumer callbacks; and the
    closures of `rowMerger` / `rowMapper` are built from values computed before the first row.
    A new per-row read (a method value such as `fs.t.truncateBefore`, `fs.t.getFields()`,
    `rs.fileStore`, `db.clock…`) makes this fail. -/
theorem scan_path_reads_expected :
    Facts.scanPerRowReads.map (fun r => (r.func, r.expr)) =
      [("fileStore.iterate", "fs.filename"), ("fileStore.iterate", "fs.t.Resolution"),
       ("fileStore.iterate", "fs.t.log.Errorf"), ("fileStore.iterate", "fs.t.log.IsTraceEnabled"),
       ("fileStore.iterate", "fs.t.log.Tracef")] ∧
    Facts.scanPerRowParamCalls.map (fun r => (r.func, r.expr)) =
      [("fileStore.iterate", "onRow"), ("rowStore.iterate", "onValue")] ∧
    Facts.scanHelperArgs =
      [("rowMerger", ["outFields", "ms.fields", "fs.t.Resolution", "truncateBefore"]),
       ("rowMapper", ["outFields", "fileFields"])] := by
  decide +kernel

/-! ### several scans: a copy reused until the next structural change -/

/-- A `cached` copy violates `prefix_complete`: point 4 (same key and period as point 0: written
    in place, nothing allocated) is processed before the second scan starts, yet the second
    scan, handed the remembered copy of the first, shows it in no field; the table as of its start
    has it in both.  A structural insert in between (point 104: re-allocation) forgets the copy
    and the next scan is right again — and so is every scan under the deep copy. -/
theorem cached_copy_misses_processed_point :
    (crun (prov 2) {} [.ingest 0, .scanStart, .deliver 0 0, .ingest 4, .scanStart, .deliver 1 0]).2 =
      [(0, 0, some [some [0], some [0]]), (1, 0, some [some [0], some [0]])] ∧
    view (prov 2) (run (prov 2) .deep {} [.ingest 0, .scanStart, .deliver 0 0, .ingest 4]).1 0 =
      some [some [0, 4], some [0, 4]] ∧
    Ev.ingest 4 ∈ [Ev.ingest 0, Ev.scanStart, Ev.deliver 0 0, Ev.ingest 4] ∧
    (crun (prov 2) {} [.ingest 0, .scanStart, .ingest 4, .ingest 104, .scanStart, .deliver 1 0]).2 =
      [(1, 0, some [some [0, 4, 104], some [0, 4, 104]])] ∧
    deliveries .deep [.ingest 0, .scanStart, .deliver 0 0, .ingest 4, .scanStart, .deliver 1 0] =
      [(0, 0, some [some [0], some [0]]), (1, 0, some [some [0, 4], some [0, 4]])] :=
  ⟨by decide +kernel, by decide +kernel, by decide, by decide +kernel, by decide +kernel⟩

/-! ### the code as found (`shared`) and the half repair (`arrays`) violate the property -/

/-- D9, in place: the row of an existing key delivered after an in-scan insert into the same
    period shows that insert (the copy's node shares the sequence bytes). -/
theorem shared_inplace_insert_visible :
    deliveries .shared [.ingest 0, .scanStart, .ingest 4, .deliver 0 0] =
      [(0, 0, some [some [0, 4], some [0, 4]])] ∧
    view (prov 2) (run (prov 2) .shared {} [.ingest 0]).1 0 = some [some [0], some [0]] := by
  decide +kernel

/-- D9, re-allocated: the insert makes `Update` return a new sequence, `doUpdate` stores it into
    the `data` slice the copy shares — visible as well. -/
theorem shared_realloc_insert_visible :
    deliveries .shared [.ingest 0, .scanStart, .ingest 104, .deliver 0 0] =
      [(0, 0, some [some [0, 104], some [0, 104]])] := by
  decide +kernel

/-- D9, torn row: a delivery between two iterations of the field loop of one insert sees the
    insert in the first field only. -/
theorem shared_torn_row :
    deliveries .shared [.ingest 0, .scanStart, .ingestField 4 0, .deliver 0 0, .ingestField 4 1] =
      [(0, 0, some [some [0, 4], some [0]])] := by
  decide +kernel

/-- with sharing, rows delivered before the insert do not show it: one scan mixes two instants -/
theorem shared_mixes_instants :
    deliveries .shared [.ingest 0, .ingest 1, .scanStart, .deliver 0 0, .ingest 4, .ingest 5, .deliver 0 1] =
      [(0, 0, some [some [0], some [0]]), (0, 1, some [some [1, 5], some [1, 5]])] := by
  decide +kernel

/-- a key inserted during the scan is not delivered even by the sharing copy (the copy has its
    own nodes and edges), and a flush during the scan does not disturb it -/
theorem shared_new_key_invisible :
    deliveries .shared [.ingest 0, .scanStart, .ingest 1, .flush true, .deliver 0 1, .deliver 0 0] =
      [(0, 1, none), (0, 0, some [some [0], some [0]])] := by
  decide +kernel

/-- the property fails for the sharing copy -/
theorem shared_copy_is_not_a_snapshot :
    ∃ (pre post : List (Ev Nat)) (k : Key) (r : Option (Row (List Nat))),
      ((run (prov 2) .shared {} pre).1.scans.length, k, r) ∈
        (run (prov 2) .shared (run (prov 2) .shared {} pre).1 (Ev.scanStart :: post)).2 ∧
      r ≠ view (prov 2) (run (prov 2) .shared {} pre).1 k :=
  ⟨[.ingest 0], [.ingest 4, .deliver 0 0], 0, some [some [0, 4], some [0, 4]], by decide +kernel⟩

/-- half repair: with a fresh `data` slice per node but shared sequence bytes, a re-allocating
    insert is no longer visible, an in-place one still is -/
theorem arrays_copy_not_enough :
    deliveries .arrays [.ingest 0, .scanStart, .ingest 104, .deliver 0 0] =
      [(0, 0, some [some [0], some [0]])] ∧
    deliveries .arrays [.ingest 0, .scanStart, .ingest 4, .deliver 0 0] =
      [(0, 0, some [some [0, 4], some [0, 4]])] :=
  ⟨by decide +kernel, by decide +kernel⟩

/-! ### non-vacuity: the same schedules under the deep copy -/

example : deliveries .deep [.ingest 0, .scanStart, .ingest 4, .deliver 0 0] =
    [(0, 0, some [some [0], some [0]])] := by decide +kernel
example : deliveries .deep [.ingest 0, .scanStart, .ingest 104, .deliver 0 0] =
    [(0, 0, some [some [0], some [0]])] := by decide +kernel
example : deliveries .deep [.ingest 0, .scanStart, .ingestField 4 0, .deliver 0 0, .ingestField 4 1] =
    [(0, 0, some [some [0], some [0]])] := by decide +kernel
/-- file and memstore parts, two concurrent scans, flush between their starts -/
example : deliveries .deep [.ingest 0, .ingest 1, .flush true, .ingest 4, .scanStart, .ingest 8, .flush false,
      .scanStart, .ingest 12, .deliver 0 0, .deliver 1 0, .deliver 0 1, .deliver 0 2] =
    [(0, 0, some [some [0, 4], some [0, 4]]), (1, 0, some [some [0, 4, 8], some [0, 4, 8]]),
     (0, 1, some [some [1], some [1]]), (0, 2, none)] := by decide +kernel
/-- the hypotheses of `prefix_complete` / `no_later_point` are satisfiable and their conclusions
    are about something: point 4 (before) is in both fields, point 8 (after) in none -/
example : (0, (prov 2).keyOf 4, some [some [0, 4], some [0, 4]]) ∈
    (run (prov 2) .deep (run (prov 2) .deep {} [.ingest 0, .ingest 4]).1
      [.scanStart, .ingest 8, .deliver 0 0]).2 := by decide +kernel
example : Ev.ingest 4 ∈ [Ev.ingest 0, Ev.ingest 4] ∧
    (∀ e ∈ [Ev.ingest 0, Ev.ingest 4], Ev.point e ≠ some 8) := by decide

end Zeno.C18
