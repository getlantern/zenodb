/-
C09 — ORDER BY sorts by the full key list; LIMIT/OFFSET slice that order.

Specification (this file): `vlt` (nil first, then the natural order inside one type), `keyLt`
(one ORDER BY element, ASC/DESC, `_time` or column), `lexLt` (lexicographic strict order over
the whole key list), `slice n m xs = (xs.drop m).take n`.
Model (Model/Sort.lean): `cmpVal` = core/compare.go, `lessP`/`less` = `orderedRows.Less` after
the D2 fix, `lessBuggy` = the code as found, `limitCb`/`offsetCb`/`flatIterate` = limit.go /
offset.go over the row-callback protocol, `addOrderLimitOffset` = planner.go.

Comparability (`Compat ks a b`, `Comparable ks rows`) is constantly true: `compare` orders values
of different dynamic types by the name of their type (/repo 8a9a760; before that fix a column
holding two types, or Go `uint` values, made it panic).  The theorems with a `Compat` or
`Comparable` hypothesis therefore hold unconditionally and carry it in name only:
`compat_always`/`comparable_always` discharge it, and the `…_all` theorems state the same for
every dataset without it.  Go's `sort.Sort` is trusted to return a permutation that is non-decreasing for a
`Less` that is a strict weak order (`lexLt_strictWeak` + `less_eq_lexLt` give that premise);
`sort_perm`/`sort_sorted` show the same for the model's own insertion sort, and
`query_spec` holds for every `sortFn`.
-/
import ZenoModel.Lemmas.Sort
import ZenoModel.Lemmas.SortType

-- the comparability hypotheses of several statements are constantly true; their proofs do not use them
set_option linter.unusedVariables false

/-! ## Specification
(in its own namespace so that the auto-generated equation lemmas of these definitions are not
counted as proof obligations of `Zeno.C09`) -/
namespace Zeno.SortSpec
open Zeno

/-- strict order on the values of one column: nil sorts first; values of different dynamic types
    are ordered by the name of their type (what `compare` does since /repo 8a9a760); values of one
    type by their natural order; `other` values ([]byte …) are unordered among themselves -/
def vlt : DimVal → DimVal → Bool
  | .nil, .nil => false
  | .nil, _ => true
  | _, .nil => false
  | a, b =>
    if a.typeName ≠ b.typeName then decide (a.typeName < b.typeName)
    else match a, b with
      | .bool a, .bool b => !a && b
      | .int _ a, .int _ b => decide (a < b)
      | .float _ a, .float _ b => decide (a < b)
      | .str a, .str b => decide (a < b)
      | .time a, .time b => decide (a < b)
      | _, _ => false

/-- dynamic type of a non-nil value -/
inductive Ty
  | bool | int (k : IntKind) | float (single : Bool) | str | time | other
  deriving DecidableEq, Repr

def ty : DimVal → Option Ty
  | .nil => none
  | .bool _ => some .bool
  | .int k _ => some (.int k)
  | .float s _ => some (.float s)
  | .str _ => some .str
  | .time _ => some .time
  | .other _ => some .other

/-- comparability of two values: constantly true, `compare` orders every two values (before /repo
    8a9a760 only "nil, or same dynamic type other than Go `uint`" could be compared; anything else
    made `compare` panic).  `compat_always` / `comparable_always` discharge the `Compat` /
    `Comparable` hypotheses of the theorems below for all rows. -/
def vcompat (_a _b : DimVal) : Bool := true

/-- strict order induced by one ORDER BY element -/
def keyLt (o : OrderBy) (a b : FlatRow) : Bool :=
  if o.field == "_time" then
    if o.desc then decide (b.ts < a.ts) else decide (a.ts < b.ts)
  else
    if o.desc then vlt (b.get o.field) (a.get o.field) else vlt (a.get o.field) (b.get o.field)

/-- lexicographic strict order over the key list: less on the first key, or tied on the first
    key and less on the rest -/
def lexLt : List OrderBy → FlatRow → FlatRow → Bool
  | [], _, _ => false
  | o :: ks, a, b => keyLt o a b || (!keyLt o b a && lexLt ks a b)

def keyCompat (o : OrderBy) (a b : FlatRow) : Bool :=
  o.field == "_time" || vcompat (a.get o.field) (b.get o.field)

/-- the two rows can be compared on every ordered column -/
def Compat (ks : List OrderBy) (a b : FlatRow) : Bool := ks.all (fun o => keyCompat o a b)

/-- all pairs of rows can -/
def Comparable (ks : List OrderBy) (rows : List FlatRow) : Bool :=
  rows.all (fun a => rows.all (fun b => Compat ks a b))

/-- non-decreasing under `lexLt` -/
def Sorted (ks : List OrderBy) (l : List FlatRow) : Prop :=
  l.Pairwise (fun a b => lexLt ks b a = false)

/-- LIMIT n OFFSET m -/
def slice (n m : Nat) (xs : List FlatRow) : List FlatRow := (xs.drop m).take n

end Zeno.SortSpec

namespace Zeno.C09
open Zeno Zeno.SortLemmas Zeno.SortSpec

theorem vcompat_symm (a b : DimVal) : vcompat a b = vcompat b a := rfl

/-- the order inside one dynamic type: the inner `switch` of `compare` and of `vlt` -/
def inner : DimVal → DimVal → Bool
  | .bool a, .bool b => !a && b
  | .int _ a, .int _ b => decide (a < b)
  | .float _ a, .float _ b => decide (a < b)
  | .str a, .str b => decide (a < b)
  | .time a, .time b => decide (a < b)
  | _, _ => false

theorem vlt_nonnil {a b : DimVal} (ha : a ≠ .nil) (hb : b ≠ .nil) :
    vlt a b = if a.typeName ≠ b.typeName then decide (a.typeName < b.typeName) else inner a b := by
  cases a with
  | nil => exact absurd rfl ha
  | _ =>
    cases b with
    | nil => exact absurd rfl hb
    | _ => rfl

theorem cmpVal_nonnil {a b : DimVal} (ha : a ≠ .nil) (hb : b ≠ .nil) :
    cmpVal a b = if a.typeName ≠ b.typeName then some (cmp3 a.typeName b.typeName)
      else some (if inner a b then -1 else if inner b a then 1 else 0) := by
  cases a with
  | nil => exact absurd rfl ha
  | bool x =>
    cases b with
    | nil => exact absurd rfl hb
    | bool y => cases x <;> cases y <;> rfl
    | _ => rfl
  | _ =>
    cases b with
    | nil => exact absurd rfl hb
    | _ =>
      first
      | rfl
      | simp only [cmpVal, inner, cmp3_eq, decide_eq_true_eq]

/-- `compare` is the three-way form of `vlt`, for every two values: it never panics (the
    hypothesis holds by `rfl`). -/
theorem cmpVal_spec {a b : DimVal} (_h : vcompat a b = true) :
    cmpVal a b = some (if vlt a b then -1 else if vlt b a then 1 else 0) := by
  by_cases ha : a = .nil
  · subst ha; cases b <;> simp [cmpVal, vlt]
  · by_cases hb : b = .nil
    · subst hb; cases a <;> simp_all [cmpVal, vlt]
    · rw [cmpVal_nonnil ha hb, vlt_nonnil ha hb, vlt_nonnil hb ha]
      by_cases h : a.typeName = b.typeName
      · simp [h]
      · simp [h, Ne.symm h, cmp3_eq]

/-- Since /repo 8a9a760 `compare` has a result for every pair of dynamic values (different types
    are ordered by type name; Go `uint` is compared as `uint`): no type assertion can fail. -/
theorem cmpVal_total (a b : DimVal) : (cmpVal a b).isSome = true := by
  rw [cmpVal_spec rfl]
  rfl

/-! ## `vlt` is a strict weak order

`vlt` is the lexicographic order of the key (position of the type name, then `valLt` of
Lemmas/Sort.lean: integer value, rational value, string value); each component is a linear order,
so `StrictWeak.lex` applies. -/

private theorem inner_eq_valLt {a b : DimVal} (h : cls a = cls b) : inner a b = valLt a b := by
  cases a <;> cases b <;>
    first
    | exact absurd h (of_decide_eq_false rfl)        -- different cases of the switch
    | rfl                                            -- nil, other
    | (simp [inner, valLt, ikey, rkey, skey]; rfl)   -- int, float, str, time
    | (rename_i x y; cases x <;> cases y <;> rfl)    -- bool

private theorem vlt_eq_lex (a b : DimVal) :
    vlt a b = (decide (ord a < ord b) || (!decide (ord b < ord a) && valLt a b)) := by
  by_cases ha : a = .nil
  · subst ha
    by_cases hb : b = .nil
    · subst hb
      rfl
    · have : vlt .nil b = true := by cases b <;> first | exact absurd rfl hb | rfl
      simp [this, show ord .nil = 0 from rfl, ord_pos hb]
  · by_cases hb : b = .nil
    · subst hb
      have : vlt a .nil = false := by cases a <;> rfl
      simp [this, show ord .nil = 0 from rfl, ord_pos ha]
    · rw [vlt_nonnil ha hb]
      by_cases h : ord a = ord b
      · simp [(typeName_eq_iff a b).mpr h, h, inner_eq_valLt (cls_eq_of_ord_eq h)]
      · have hne : a.typeName ≠ b.typeName := mt (typeName_eq_iff a b).mp h
        by_cases hlt : ord a < ord b
        · simp [hne, typeName_lt_iff, hlt]
        · have hgt : ord b < ord a := by omega
          simp [hne, typeName_lt_iff, hlt, hgt]

theorem strictWeak_vlt : StrictWeak vlt := by
  have e : vlt = fun a b => decide (ord a < ord b) || (!decide (ord b < ord a) && valLt a b) :=
    funext fun a => funext fun b => vlt_eq_lex a b
  rw [e]
  exact (strictWeak_lt.comap ord).lex strictWeak_valLt

theorem vlt_irrefl (a : DimVal) : vlt a a = false :=
  strictWeak_vlt.irrefl a

theorem vlt_asymm {a b : DimVal} (h : vlt a b = true) : vlt b a = false :=
  strictWeak_vlt.asymm h

theorem vlt_trans {a b c : DimVal} (h₁ : vlt a b = true) (h₂ : vlt b c = true) :
    vlt a c = true :=
  strictWeak_vlt.trans h₁ h₂

/-- incomparability is transitive (for all values: mixed types are ordered by type name) -/
theorem vlt_negTrans {a b c : DimVal} (_hab : vcompat a b = true) (_hbc : vcompat b c = true)
    (_hac : vcompat a c = true) (h₁ : vlt a b = false) (h₂ : vlt b c = false) :
    vlt a c = false :=
  strictWeak_vlt.negTrans h₁ h₂

theorem strictWeak_keyLt (o : OrderBy) : StrictWeak (keyLt o) :=
  .ite _
    (.ite _ ((strictWeak_lt.comap FlatRow.ts).swap) (strictWeak_lt.comap FlatRow.ts))
    (.ite _ ((strictWeak_vlt.comap fun r : FlatRow => r.get o.field).swap)
      (strictWeak_vlt.comap fun r : FlatRow => r.get o.field))

theorem keyLt_asymm (o : OrderBy) {a b : FlatRow} (h : keyLt o a b = true) :
    keyLt o b a = false :=
  (strictWeak_keyLt o).asymm h

theorem keyLt_negTrans (o : OrderBy) {a b c : FlatRow} (hab : keyCompat o a b = true)
    (hbc : keyCompat o b c = true) (hac : keyCompat o a c = true)
    (h₁ : keyLt o a b = false) (h₂ : keyLt o b c = false) : keyLt o a c = false :=
  (strictWeak_keyLt o).negTrans h₁ h₂

theorem strictWeak_lexLt (ks : List OrderBy) : StrictWeak (lexLt ks) := by
  induction ks with
  | nil => exact ⟨fun h => (nomatch h), fun _ _ => rfl⟩
  | cons o ks ih => exact (strictWeak_keyLt o).lex ih

theorem keyCompat_symm (o : OrderBy) (a b : FlatRow) : keyCompat o a b = keyCompat o b a := rfl

theorem compat_always (ks : List OrderBy) (a b : FlatRow) : Compat ks a b = true := by
  simp [Compat, keyCompat, vcompat]

theorem compat_symm (ks : List OrderBy) (a b : FlatRow) : Compat ks a b = Compat ks b a := by
  rw [compat_always, compat_always]

theorem comparable_always (ks : List OrderBy) (rows : List FlatRow) : Comparable ks rows = true := by
  simp [Comparable, compat_always]

private theorem lessP_cons (o : OrderBy) (ks : List OrderBy) (a b : FlatRow) :
    lessP (o :: ks) a b =
      if keyLt o a b then some true else if keyLt o b a then some false else lessP ks a b := by
  rw [lessP]
  unfold keyLt
  by_cases ht : (o.field == "_time") = true
  · cases o.desc <;> simp [ht]
  · cases o.desc <;> simp only [ht, Bool.false_eq_true, if_false, if_true, cmpVal_spec rfl]
    · cases vlt (a.get o.field) (b.get o.field) <;> cases vlt (b.get o.field) (a.get o.field) <;> rfl
    · cases vlt (a.get o.field) (b.get o.field) <;> cases vlt (b.get o.field) (a.get o.field) <;> rfl

/-- `orderedRows.Less` is the lexicographic order over the full key list, for all rows. -/
theorem less_is_lexLt (ks : List OrderBy) (a b : FlatRow) : lessP ks a b = some (lexLt ks a b) := by
  induction ks with
  | nil => rfl
  | cons o ks ih =>
    rw [lessP_cons, ih, lexLt]
    cases keyLt o a b <;> cases keyLt o b a <;> rfl

/-- The model of `orderedRows.Less` (after the D2 fix) never panics on comparable rows and is
    exactly the lexicographic order over the full key list. -/
theorem lessP_eq_lexLt {ks : List OrderBy} {a b : FlatRow} (h : Compat ks a b = true) :
    lessP ks a b = some (lexLt ks a b) :=
  less_is_lexLt ks a b

theorem less_eq_lexLt {ks : List OrderBy} {a b : FlatRow} (h : Compat ks a b = true) :
    less ks a b = true ↔ lexLt ks a b = true := by
  simp [less, lessP_eq_lexLt h]

theorem less_no_panic {ks : List OrderBy} {a b : FlatRow} (h : Compat ks a b = true) :
    lessP ks a b ≠ none := by
  simp [lessP_eq_lexLt h]

/-- … hence `orderedRows.Less` never panics, whatever the rows hold (no `Compat` hypothesis). -/
theorem less_never_panics (ks : List OrderBy) (a b : FlatRow) : (lessP ks a b).isSome = true := by
  rw [less_is_lexLt]
  rfl

theorem lexLt_irrefl (ks : List OrderBy) (a : FlatRow) : lexLt ks a a = false :=
  (strictWeak_lexLt ks).irrefl a

theorem lexLt_asymm {ks : List OrderBy} {a b : FlatRow} (h : lexLt ks a b = true) :
    lexLt ks b a = false :=
  (strictWeak_lexLt ks).asymm h

theorem lexLt_negTrans {ks : List OrderBy} {a b c : FlatRow} (hab : Compat ks a b = true)
    (hbc : Compat ks b c = true) (hac : Compat ks a c = true)
    (h₁ : lexLt ks a b = false) (h₂ : lexLt ks b c = false) : lexLt ks a c = false :=
  (strictWeak_lexLt ks).negTrans h₁ h₂

theorem lexLt_trans {ks : List OrderBy} {a b c : FlatRow} (hab : Compat ks a b = true)
    (hbc : Compat ks b c = true) (hac : Compat ks a c = true)
    (h₁ : lexLt ks a b = true) (h₂ : lexLt ks b c = true) : lexLt ks a c = true :=
  (strictWeak_lexLt ks).trans h₁ h₂

/-- "tied under the whole key list" is transitive -/
theorem lexLt_incomp_trans {ks : List OrderBy} {a b c : FlatRow} (hab : Compat ks a b = true)
    (hbc : Compat ks b c = true) (hac : Compat ks a c = true)
    (h₁ : lexLt ks a b = false ∧ lexLt ks b a = false)
    (h₂ : lexLt ks b c = false ∧ lexLt ks c b = false) :
    lexLt ks a c = false ∧ lexLt ks c a = false :=
  ⟨(strictWeak_lexLt ks).negTrans h₁.1 h₂.1, (strictWeak_lexLt ks).negTrans h₂.2 h₁.2⟩

/-- On a comparable set of rows `lexLt` is a strict weak order. -/
theorem lexLt_strictWeak {ks : List OrderBy} {rows : List FlatRow}
    (hc : Comparable ks rows = true) :
    (∀ a ∈ rows, lexLt ks a a = false) ∧
    (∀ a ∈ rows, ∀ b ∈ rows, lexLt ks a b = true → lexLt ks b a = false) ∧
    (∀ a ∈ rows, ∀ b ∈ rows, ∀ c ∈ rows,
      lexLt ks a b = true → lexLt ks b c = true → lexLt ks a c = true) ∧
    (∀ a ∈ rows, ∀ b ∈ rows, ∀ c ∈ rows,
      (lexLt ks a b = false ∧ lexLt ks b a = false) →
      (lexLt ks b c = false ∧ lexLt ks c b = false) →
      (lexLt ks a c = false ∧ lexLt ks c a = false)) :=
  have w := strictWeak_lexLt ks
  ⟨fun a _ => w.irrefl a, fun _ _ _ _ => w.asymm, fun _ _ _ _ _ _ => w.trans,
   fun _ _ _ _ _ _ h₁ h₂ => ⟨w.negTrans h₁.1 h₂.1, w.negTrans h₂.2 h₁.2⟩⟩

theorem strictWeak_less (ks : List OrderBy) : StrictWeak (less ks) := by
  have e : less ks = lexLt ks := by
    funext a b
    simp [less, less_is_lexLt]
  rw [e]
  exact strictWeak_lexLt ks

/-- `Less` is a strict weak order on any set of rows. -/
theorem less_strictWeak_all (ks : List OrderBy) (rows : List FlatRow) :
    (∀ a ∈ rows, less ks a a = false) ∧
    (∀ a ∈ rows, ∀ b ∈ rows, less ks a b = true → less ks b a = false) ∧
    (∀ a ∈ rows, ∀ b ∈ rows, ∀ c ∈ rows,
      less ks a b = true → less ks b c = true → less ks a c = true) ∧
    (∀ a ∈ rows, ∀ b ∈ rows, ∀ c ∈ rows,
      less ks a b = false → less ks b c = false → less ks a c = false) :=
  have w := strictWeak_less ks
  ⟨fun a _ => w.irrefl a, fun _ _ _ _ => w.asymm, fun _ _ _ _ _ _ => w.trans,
   fun _ _ _ _ _ _ => w.negTrans⟩

/-- On a comparable set of rows the model's `Less` is a strict weak order (irreflexive,
    asymmetric, transitive, incomparability transitive) — the contract under which Go's
    `sort.Sort` (trusted) returns a non-decreasing permutation. -/
theorem less_strictWeak {ks : List OrderBy} {rows : List FlatRow}
    (hc : Comparable ks rows = true) :
    (∀ a ∈ rows, less ks a a = false) ∧
    (∀ a ∈ rows, ∀ b ∈ rows, less ks a b = true → less ks b a = false) ∧
    (∀ a ∈ rows, ∀ b ∈ rows, ∀ c ∈ rows,
      less ks a b = true → less ks b c = true → less ks a c = true) ∧
    (∀ a ∈ rows, ∀ b ∈ rows, ∀ c ∈ rows,
      less ks a b = false → less ks b c = false → less ks a c = false) :=
  less_strictWeak_all ks rows

/-- ORDER BY keeps the multiset of rows (no hypothesis needed). -/
theorem sort_perm (ks : List OrderBy) (rows : List FlatRow) : (isort ks rows).Perm rows :=
  isortBy_perm _ rows

/-- ORDER BY arranges any result non-decreasingly under the full lexicographic key order. -/
theorem sort_sorted_all (ks : List OrderBy) (rows : List FlatRow) : Sorted ks (isort ks rows) := by
  have hs := isortBy_sorted ((strictWeak_less ks).weakOn (fun _ => True)) rows (fun _ _ => trivial)
  refine List.Pairwise.imp ?_ hs
  intro a b hlt
  simpa [less, less_is_lexLt] using hlt

/-- `sort_sorted_all`, with the `Comparable` hypothesis in name only -/
theorem sort_sorted {ks : List OrderBy} {rows : List FlatRow}
    (hc : Comparable ks rows = true) : Sorted ks (isort ks rows) :=
  sort_sorted_all ks rows

/-- The offset and limit callbacks, composed as the planner composes them, deliver exactly the
    slice — for all `n`, `m`, including values beyond the row count.  `0` means "clause
    absent" (`if query.Limit > 0`), so `LIMIT 0` does not mean "no rows". -/
theorem limit_offset_slice (n m : Nat) (xs : List FlatRow) :
    limitOffset n m xs = if n = 0 then xs.drop m else slice n m xs :=
  limitOffset_eq n m xs

/-- never more than `n` rows when a limit is given -/
theorem limit_at_most (n m : Nat) (xs : List FlatRow) (hn : n > 0) :
    (limitOffset n m xs).length ≤ n := by
  have : n ≠ 0 := by omega
  rw [limit_offset_slice]
  simp [this, slice, List.length_take]
  omega

/-- every output row is an input row, in the input's order (no row invented or reordered) -/
theorem limit_offset_sublist (n m : Nat) (xs : List FlatRow) :
    (limitOffset n m xs).Sublist xs := by
  rw [limit_offset_slice]
  split
  · exact List.drop_sublist m xs
  · exact (List.take_sublist n _).trans (List.drop_sublist m xs)

/-- The whole of `addOrderLimitOffset`: for any sort routine that returns a sorted permutation
    (Go's `sort.Sort` by trust, `isort` by `sort_perm`/`sort_sorted`), the query returns rows
    `m .. m+n-1` of a `lexLt`-sorted permutation of the unordered result. -/
theorem query_spec (sortFn : List OrderBy → List FlatRow → List FlatRow) (q : OLO)
    (rows : List FlatRow) (hk : q.orderBy ≠ [])
    (hperm : (sortFn q.orderBy rows).Perm rows) (hsorted : Sorted q.orderBy (sortFn q.orderBy rows)) :
    ∃ sorted : List FlatRow, sorted.Perm rows ∧ Sorted q.orderBy sorted ∧
      addOrderLimitOffset sortFn q rows =
        if q.limit = 0 then sorted.drop q.offset else slice q.limit q.offset sorted := by
  refine ⟨sortFn q.orderBy rows, hperm, hsorted, ?_⟩
  have : q.orderBy.length > 0 := List.length_pos_iff.mpr hk
  simp [addOrderLimitOffset, this, limit_offset_slice]

/-- without ORDER BY the source order is sliced -/
theorem query_unordered (sortFn : List OrderBy → List FlatRow → List FlatRow) (n m : Nat)
    (rows : List FlatRow) :
    addOrderLimitOffset sortFn ⟨[], n, m⟩ rows = if n = 0 then rows.drop m else slice n m rows := by
  simp [addOrderLimitOffset, limit_offset_slice]

/-- The whole of `addOrderLimitOffset` with the model's sort, for all rows, key lists, n, m. -/
theorem query_spec_all (q : OLO) (rows : List FlatRow) (hk : q.orderBy ≠ []) :
    ∃ sorted : List FlatRow, sorted.Perm rows ∧ Sorted q.orderBy sorted ∧
      addOrderLimitOffset isort q rows =
        if q.limit = 0 then sorted.drop q.offset else slice q.limit q.offset sorted :=
  query_spec isort q rows hk (sort_perm q.orderBy rows) (sort_sorted_all q.orderBy rows)

def d2Keys : List OrderBy := [⟨"_time", false⟩, ⟨"x", false⟩]
def d2A : FlatRow := { ts := 2, key := [("x", .int .int 1)], fields := [] }
def d2B : FlatRow := { ts := 1, key := [("x", .int .int 2)], fields := [] }

/-- `ORDER BY _time, x`: row A (time 2, x 1) is reported less than row B (time 1, x 2) although
    it is later in time — the pre-fix `Less` is not the lexicographic order, and is not even
    asymmetric (A<B and B<A), so `sort.Sort`'s contract is void. -/
theorem lessBuggy_violates_spec :
    Compat d2Keys d2A d2B = true ∧ lessBuggy d2Keys d2A d2B = true ∧
    lexLt d2Keys d2A d2B = false ∧ lessBuggy d2Keys d2B d2A = true := by decide +kernel

/-- the fixed `Less` on the same witness -/
theorem less_fixed_on_witness :
    less d2Keys d2A d2B = false ∧ less d2Keys d2B d2A = true := by decide

def exKeys : List OrderBy := [⟨"_time", false⟩, ⟨"d", true⟩, ⟨"v", false⟩]
def exR1 : FlatRow := { ts := 10, key := [("d", .str "a")], fields := [("v", 3)] }
def exR2 : FlatRow := { ts := 10, key := [("d", .str "b")], fields := [("v", 1)] }
def exR3 : FlatRow := { ts := 10, key := [], fields := [("v", 2)] }            -- d missing: nil
def exR4 : FlatRow := { ts := 5, key := [("d", .str "a")], fields := [("v", 9)] }
def exR5 : FlatRow := { ts := 10, key := [("d", .str "b")], fields := [("v", 1)] }  -- tie with R2
def exRows : List FlatRow := [exR1, exR2, exR3, exR4, exR5]

example : Comparable exKeys exRows = true := by decide +kernel
-- `_time` first with ties on it, DESC on a column with a missing (nil) value, ties on all keys
example : isort exKeys exRows = [exR4, exR2, exR5, exR1, exR3] := by decide +kernel
example : lexLt exKeys exR2 exR1 = true ∧ lexLt exKeys exR1 exR3 = true ∧
    lexLt exKeys exR2 exR5 = false ∧ lexLt exKeys exR5 exR2 = false := by decide +kernel
example : limitOffset 2 1 (isort exKeys exRows) = [exR2, exR5] := by decide +kernel
example : limitOffset 0 3 (isort exKeys exRows) = [exR1, exR3] := by decide +kernel
example : limitOffset 7 4 (isort exKeys exRows) = [exR3] := by decide +kernel
example : limitOffset 3 9 (isort exKeys exRows) = [] := by decide +kernel
-- a column holding values of two types: `Less` orders such values by the name of their type
-- ("int" < "string"; before /repo 8a9a760 it panicked)
example : Compat [⟨"d", false⟩] exR1 { ts := 0, key := [("d", .int .int 1)], fields := [] } = true ∧
    lessP [⟨"d", false⟩] exR1 { ts := 0, key := [("d", .int .int 1)], fields := [] } = some false ∧
    lessP [⟨"d", false⟩] { ts := 0, key := [("d", .int .int 1)], fields := [] } exR1 = some true := by
  decide +kernel
-- Go `uint` dimensions are compared by value (before /repo 8a9a760 `compare` asserted uint64 and panicked)
example : cmpVal (.int .uint 1) (.int .uint 2) = some (-1) := by decide
-- fields shadow dimensions of the same name (`FlatRow.Get` looks at fields first)
example : ({ ts := 0, key := [("v", .str "z")], fields := [("v", 4)] } : FlatRow).get "v" =
    .float false 4 := by decide

end Zeno.C09
