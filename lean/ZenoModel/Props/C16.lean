/-
C16 — malformed client input yields an error, never a crash or a stalled pipeline.

The model (Model/SqlDispatch.lean; helper lemmas: Lemmas/SqlDispatch.lean) gives, for every
sqlparser AST, the SET of possible outcomes
`ok | error | panic` of `sql.Parse`, `sql.TableFor` and `Fields.Get`, with every type
assertion, index and panicking callee of sql/sql.go as an explicit `panic` outcome; and the
insert path as a state machine with `recover` semantics.  The theorems quantify over all
ASTs (unbounded nesting) that satisfy the three grammar invariants `wf` (tuples non-empty,
function names non-empty, FROM non-empty), and over all payload sequences.
`Facts.*` is regenerated from /repo on every run, so a new unchecked assertion, a removed
`recover` or a new dispatch-table entry re-opens the `decide` obligations below.
The behaviour of the code as found (before the C16 fixes) is kept as witnesses at the end.

Lexer agreement (Model/SqlLex.lean, Lemmas/SqlLex.lean): `sql.Parse` runs two lexers over the
same text, the pre-scan `checkLiteralIdentifiers` and sqlparser's tokenizer, and the second never
returns from a backtick identifier that is open at the end of the input.  The theorems say that
the pre-scan (as regenerated: `prescan_shape_matches`) accepts exactly the inputs on which the
tokenizer terminates, for every byte sequence.
-/
import ZenoModel.Lemmas.SqlDispatch
import ZenoModel.Lemmas.SqlLex
import ZenoModel.Generated.Facts

namespace Zeno.C16
open Zeno Zeno.Sql Zeno.Sql.Ins

/-- `sql.Parse` (after sqlparser accepted the text), with the C16 repairs in place -/
abbrev parseModel (s : Stmt) : Res Unit := parseStmt Cfg.fixed s

/-- `sql.Parse` returns a query or an error for every statement kind and every expression
    tree (any nesting depth): `panic` is not among its possible outcomes. -/
theorem parse_never_panics (s : Stmt) (h : s.wf = true) : (parseModel s).pan = false :=
  (np_stmt s h).1

/-- `sql.TableFor` never panics. -/
theorem tableFor_never_panics (s : Stmt) (h : s.wf = true) : (tableFor Cfg.fixed s).pan = false := by
  cases s with
  | select sel =>
    cases sel with
    | mk _ _ _ frm =>
      cases frm with
      | none => nomatch (wf_and (wf_and (wf_and h).1).1).2
      | _ => rfl
  | _ => rfl

/-- `query.Fields.Get(known)` (what the planner calls on the parsed query) never panics,
    whatever fields the table has. -/
theorem fields_never_panic (known : List (String × Bool)) (s : Stmt) (h : s.wf = true) :
    (fieldsOf Cfg.fixed known s).pan = false :=
  (np_stmt s h).2 known

/-- any expression, used as a field expression or as a dimension expression -/
theorem expr_dispatch_never_panics (c : Ctx) (e : Ex) (d : Bool) (h : e.wf = true) :
    (exprFor Cfg.fixed c e d).pan = false ∧ (goExprFor Cfg.fixed e).pan = false :=
  ⟨(np_ex e h).exprFor c d, (np_ex e h).goExprFor⟩

/-- Non-SELECT statements are rejected with an error (not just "not a panic"). -/
theorem non_select_is_error (s : Stmt) (h : ∀ sel, s ≠ .select sel) :
    parseModel s = Res.error ∧ tableFor Cfg.fixed s = Res.error := by
  cases s <;> first | exact absurd rfl (h _) | exact ⟨rfl, rfl⟩

/-- The WHERE clause is a boolean expression by the grammar; whenever `goExprFor` accepts it,
    the resulting expression evaluates to a `bool`, so `result.(bool)` in
    planner.applySubQueryFilters (guarded there by `result != nil`) cannot fail. -/
theorem where_is_bool (e : Ex) (hb : e.isBoolKind = true) (t : GoTy)
    (h : (goExprFor Cfg.fixed e).val = some t) : t = GoTy.bool :=
  goExprFor_bool _ e hb t h

/-- Sites the extractor cannot see a guard for, with the reason why the assertion cannot fail.
    (file, function, asserted type, expression, reason).  A site that CAN fail on client input
    does not belong here: it is a defect. -/
def expectedUnguarded : List (String × String × String × String × String) := [
  ("insert.go", "(*table).doInsert", "bool", "ok",
    "value of where.Eval for the table's own WHERE clause (operator SQL, boolean by grammar: where_is_bool); the only caller is (*table).insert, which has a deferred recover() (recover_boundaries_present)"),
  ("planner/local.go", "applySubQueryFilters", "bool", "result",
    "result != nil is checked in the same condition, and a non-nil result of the WHERE expression is a bool (where_is_bool)"),
  ("sql/sql.go", "(*selectClause).addExpr", "expr.Expr", "fe",
    "fe was produced two statements above by the checked assertion fe, ok := _fe.(expr.Expr) with !ok returning; asserting a non-nil expr.Expr to expr.Expr cannot fail")
]

def siteMatches (s : Facts.AssertSite) (e : String × String × String × String × String) : Bool :=
  e.1 == s.file && e.2.1 == s.fn && e.2.2.1 == s.typ && e.2.2.2.1 == s.expr

/-- Every single-value type assertion in sql/*.go, planner/*.go, core/*.go, insert.go, query.go,
    web/insert.go, rpc/server/rpc_server.go is guarded (type switch, ok-check, type-equality check,
    deferred recover) or listed above with its reason — and nothing listed above is stale. -/
theorem facts_all_guarded :
    Facts.assertSites.all (fun s => s.guarded || expectedUnguarded.any (siteMatches s)) = true ∧
    expectedUnguarded.all (fun e => Facts.assertSites.any (fun s => !s.guarded && siteMatches s e)) = true := by
  decide +kernel

/-- The functions whose deferred `recover()` the model relies on still have it:
    `table.insert` (bad point ⇒ skipped), the query boundaries (a panic while executing a query
    fails that query, not the process: the shared iteration goroutine, the gRPC / web / remote
    query handlers, the planner's sub query goroutines), `InsertRaw`'s byte-map probe. -/
def expectedRecover : List (String × String) := [
  ("insert.go", "(*table).insert"),
  ("insert.go", "checkByteMap"),
  ("table.go", "(*iteration).safeOnValue"),
  ("rpc/server/rpc_server.go", "(*server).Query"),
  ("web/query.go", "(*handler).doQuery"),
  ("cluster_query.go", "(*DB).queryForRemote"),
  ("cluster_follow.go", "(*DB).mapPartitionRequest"),
  ("planner/subquery.go", "planSubQueries (goroutine)")
]

theorem recover_boundaries_present :
    expectedRecover.all (fun e => Facts.recoverFuncs.contains e) = true := by
  decide +kernel

/-- The dispatch tables of the model are exactly the map literals of sql/sql.go and
    expr/math.go (a new function name re-opens the model). -/
theorem dispatch_tables_match :
    Facts.sqlFuncTables = [
      ("aggregateFuncs", aggregateFuncs), ("binaryAggregateFuncs", binaryAggregateFuncs),
      ("operators", operators), ("conditions", conditions), ("nullaryGoExpr", nullaryGoExpr),
      ("unaryGoExpr", unaryGoExpr), ("binaryGoExpr", binaryGoExpr), ("ternaryGoExpr", ternaryGoExpr),
      ("varGoExpr", varGoExpr), ("varGoExprMinParams", ["CONCAT"]), ("unaryMathFNs", unaryMathFNs)] := by
  rfl

/-- `DB.InsertRaw` itself never panics in the caller's goroutine (with or without a dimension
    whitelist): malformed byte maps are rejected before they are sliced. -/
theorem insertRaw_never_panics (wl : Bool) (p : Payload) :
    insertRaw (ICfg.fixed wl) p ≠ Ack.callerPanic := by
  rw [insertRaw_fixed]
  split <;> nofun

/-- A bad payload (unreadable byte maps, unknown stream, follower, empty array value, …) is either
    rejected with an error — nothing changes — or written and then skipped: the table keeps its
    rows, the WAL offset advances by one, the pipeline stays alive. -/
theorem bad_insert_is_skipped_or_rejected (wl : Bool) (s : St) (p : Payload)
    (hb : p.bad = true) (hs : s.dead = false) :
    let s' := step (ICfg.fixed wl) s p
    s'.rows = s.rows ∧ s'.dead = false ∧
      ((insertRaw (ICfg.fixed wl) p = Ack.rejected ∧ s' = s) ∨
       (insertRaw (ICfg.fixed wl) p = Ack.accepted ∧ s'.offset = s.offset + 1)) := by
  intro s'
  have hr := insertRaw_fixed wl p
  split at hr
  · -- accepted: the request is well formed, so it is bad because `doInsert` panics
    rename_i hwf
    have hd : doInsert p = none := by
      simp only [Bool.and_eq_true, Bool.not_eq_true'] at hwf
      simpa [Payload.bad, hwf] using hb
    have ht : tableInsert (ICfg.fixed wl) p = Fate.skipped := by
      unfold tableInsert
      split
      · rfl
      · simp [hd, ICfg.fixed]
    have hs' : s' = { s with offset := s.offset + 1 } := by
      simp [s', step, hr, Ins.apply, hs, ht]
    exact ⟨by rw [hs'], by rw [hs', hs], Or.inr ⟨hr, by rw [hs']⟩⟩
  · have hs' : s' = s := by simp [s', step, hr]
    exact ⟨by rw [hs'], by rw [hs', hs], Or.inl ⟨hr, hs'⟩⟩

/-- A point after a bad payload is ingested exactly as if the bad one had not been there:
    the table content after `pre ++ [b] ++ post` equals the content after `pre ++ post`,
    and the pipeline is alive in both. -/
theorem ingest_continues (wl : Bool) (pre post : List Payload) (b : Payload) (hb : b.bad = true) :
    (run (ICfg.fixed wl) St.init (pre ++ [b] ++ post)).rows =
      (run (ICfg.fixed wl) St.init (pre ++ post)).rows ∧
    (run (ICfg.fixed wl) St.init (pre ++ [b] ++ post)).dead = false := by
  have halive : ∀ ps, (run (ICfg.fixed wl) St.init ps).dead = false :=
    fun ps => run_alive _ rfl ps St.init rfl
  refine ⟨?_, halive _⟩
  rw [List.append_assoc, run_append, run_append (ps := pre)]
  generalize hs1 : run (ICfg.fixed wl) St.init pre = s1
  have hd1 : s1.dead = false := hs1 ▸ halive pre
  have hbad := bad_insert_is_skipped_or_rejected wl s1 b hb hd1
  simp only at hbad
  have hsame : SameTable (step (ICfg.fixed wl) s1 b) s1 := ⟨hbad.1, by rw [hbad.2.1, hd1]⟩
  show (run _ s1 ([b] ++ post)).rows = _
  rw [List.singleton_append, run_cons]
  exact (run_sameTable _ post hsame).1

/-- A well-formed fresh point with at least one numeric value is ingested: it adds a row. -/
theorem good_insert_is_ingested (wl : Bool) (s : St) (p : Payload) (hs : s.dead = false)
    (hp : p.streamKnown = true ∧ p.follower = false ∧ p.dimsValid = true ∧ p.valsValid = true ∧ p.fresh = true)
    (n : Nat) (hn : doInsert p = some n) :
    (step (ICfg.fixed wl) s p).rows = s.rows ++ [n] := by
  obtain ⟨h1, h2, h3, h4, h5⟩ := hp
  simp [step, insertRaw_fixed, Ins.apply, tableInsert, h1, h2, h3, h4, h5, hs, hn]

/-- the cap the model uses is the constant of sql/sql.go -/
theorem crosshift_cap_matches :
    Facts.sqlConsts.lookup "maxCrosshiftFields" = some maxCrosshiftFields := by
  decide +kernel

/-- The statements of `addCrosshiftExpr` that decide how often its loop runs are, in the source,
    in the order the theorem below is about: zero checks, `interval = |interval|`,
    `limit = |cutoff|`, THEN the cap check, then the loop with its overflow guard. -/
theorem crosshift_statement_order : Facts.crosshiftOps = Cross.canonicalNames ∧
    Cross.canonicalNames.map Cross.Op.ofString = Cross.canonical.map some := by
  decide +kernel

/-- For EVERY cutoff and interval (any sign, any magnitude) one CROSSHIFT returns an error or
    adds at most cap + 1 fields: no divergence, no int64 wrap-around, no division by zero.
    Explicit precondition on faithfulness: the two values are durations `ParseDuration` can return,
    i.e. in [-(2^63-1), 2^63-1], so that `-1 * x` is exact in int64 (it is exact in the model's
    `Int` anyway, which is why the hypotheses are not used by the proof). -/
theorem crosshift_fields_bounded (cutoff interval : Int)
    (_hc : -Cross.maxDur ≤ cutoff ∧ cutoff ≤ Cross.maxDur) (_hi : -Cross.maxDur ≤ interval ∧ interval ≤ Cross.maxDur) :
    Cross.crosshift maxCrosshiftFields Cross.canonical cutoff interval = .error ∨
    ∃ n, Cross.crosshift maxCrosshiftFields Cross.canonical cutoff interval = .fields n ∧ (n : Int) ≤ maxCrosshiftFields + 1 :=
  Cross.crosshift_bounded _ cutoff interval true nofun

/-- Without the loop's overflow guard the same bound needs |cutoff| + |interval| ≤ 2^63 - 1
    (otherwise `i += interval` wraps, see the witness below). -/
theorem crosshift_unguarded_needs_no_overflow (cutoff interval : Int)
    (h : cutoff.natAbs + interval.natAbs ≤ Cross.maxDur.toNat) :
    Cross.crosshift maxCrosshiftFields Cross.unguarded cutoff interval = .error ∨
    ∃ n, Cross.crosshift maxCrosshiftFields Cross.unguarded cutoff interval = .fields n ∧ (n : Int) ≤ maxCrosshiftFields + 1 :=
  Cross.crosshift_bounded _ cutoff interval false fun _ => h

/-- The CROSSHIFT branch of the dispatch model (`crosshiftTail`, used by `fields_never_panic`)
    errors exactly when this program errors. -/
theorem crosshift_dispatch_agrees (c : Ctx) (v : VKind) (as : String) (l1 l2 : Lit)
    (h1 : l1.durOk = true) (h2 : l2.durOk = true) :
    ((crosshiftTail Cfg.fixed c v as l1 l2).val.isSome = true ↔
      ∃ n, Cross.crosshift maxCrosshiftFields Cross.canonical l1.durNs l2.durNs = .fields n) := by
  rw [show Cross.canonical = if true then Cross.canonical else Cross.unguarded from rfl, Cross.crosshift_eq]
  unfold crosshiftTail
  simp only [h1, h2, Bool.not_true, Bool.false_eq_true, if_false, Cfg.fixed, Bool.true_and, beq_iff_eq,
    decide_eq_true_eq]
  by_cases hc : l1.durNs = 0
  · simp [hc, Res.error]
  by_cases hi : l2.durNs = 0
  · simp [hc, hi, Res.error]
  rw [if_neg hc, if_neg hi, if_neg (not_or.mpr ⟨hc, hi⟩)]
  by_cases hcap : maxCrosshiftFields < ((l1.durNs.natAbs / l2.durNs.natAbs : Nat) : Int)
  · rw [if_pos hcap, if_pos hcap]
    simp [Res.error]
  · rw [if_neg hcap, if_neg hcap]
    have ⟨n, hn, _⟩ := Cross.loopOut_bounded true _ l1.durNs (l := l1.durNs.natAbs) (v := l2.durNs.natAbs)
      (by omega) (by omega) hcap nofun
    exact ⟨fun _ => ⟨n, hn⟩, fun _ => by cases v <;> rfl⟩

section LexerAgreement
open Zeno.Sql.Lex

/-- The control skeleton of `checkLiteralIdentifiers` in /repo (every branch condition, loop header,
    return and position update, in source order) is the one the model `preScan` was written
    against: editing a branch condition of the pre-scan re-opens the model. -/
theorem prescan_shape_matches : Facts.prescanShape = expectedShape := by rfl

/-- Token by token the pre-scan is the tokenizer: for every input, every amount of fuel and both
    start states, the pre-scan's verdict is the tokenizer's fate. -/
theorem prescan_agrees_with_tokenizer (n : Nat) (first : Bool) (s : Str) :
    preAll n first s = tokAll n first s := preAll_eq n first s

/-- Fuel is not an escape hatch: every token consumes at least one byte, so with more fuel than
    bytes both iterations end with a verdict. -/
theorem lexer_fuel_suffices (s : Str) (first : Bool) :
    (∃ b, tokAll (s.length + 1) first s = some b) ∧ (∃ b, preAll (s.length + 1) first s = some b) :=
  ⟨tokAll_fuel _ first s (Nat.lt_succ_self _), preAll_eq .. ▸ tokAll_fuel _ first s (Nat.lt_succ_self _)⟩

/-- THE property: whenever `checkLiteralIdentifiers` returns nil, tokenizing the whole input
    terminates (the parser may stop earlier, at a syntax error; never later) — `sql.Parse` cannot
    hang in `scanLiteralIdentifier`, for any byte sequence. -/
theorem prescan_accepts_implies_tokenizer_terminates (s : Str) (first : Bool)
    (h : preAll (s.length + 1) first s = some true) : tokAll (s.length + 1) first s = some true := by
  rw [← prescan_agrees_with_tokenizer]; exact h

/-- … and it is not over-strict: `ErrUnterminatedIdentifier` is returned only for inputs on which
    the tokenizer would really never return. -/
theorem prescan_rejects_only_if_tokenizer_loops (s : Str) (first : Bool)
    (h : preAll (s.length + 1) first s = some false) : tokAll (s.length + 1) first s = some false := by
  rw [← prescan_agrees_with_tokenizer]; exact h

end LexerAgreement

private def lit0 : Lit := {}
private def colA : Arg := .ns (.col "a") "" lit0
private def tbl (exprs : Args) (wher : Option Ex := none) (gb : Args := .nil) : Stmt :=
  .select (.mk exprs true exprs .table wher.isSome (wher.getD .other) true gb true)

/-- `SELECT a FROM t` parses. -/
example : parseModel (tbl (.cons colA .nil)) = Res.ok () := by decide +kernel
/-- `DELETE FROM t`: an error with the checked type assertion (`Cfg.checkedSelect`), a panic
    without it (`parsed.(*sqlparser.Select)`, finding D7). -/
example : parseModel .delete = Res.error ∧ (parseStmt Cfg.orig .delete).pan = true := by decide +kernel
example : (parseStmt Cfg.orig .union).pan = true ∧ (tableFor Cfg.orig .set).pan = true := by decide +kernel
/-- `SELECT * FROM (SELECT a FROM t UNION SELECT a FROM t)`: the FROM-subquery text is parsed again. -/
example : (parseStmt Cfg.orig (.select (.mk .nil true .nil (.subq .union) false .other true .nil true))).pan = true ∧
    parseModel (.select (.mk .nil true .nil (.subq .union) false .other true .nil true)) = Res.error := by decide +kernel
/-- `… WHERE LUA('x', 1, 2) = 1`: an error with `Cfg.checkedLua`, a panic without it
    (`keys.(*goexpr.ArrayExpr)`). -/
private def luaBad : Ex := .cmp "=" (.func "LUA" (.cons (.ns .str "" lit0) (.cons (.ns (.num true true) "" lit0)
  (.cons (.ns (.num true true) "" lit0) .nil)))) (.num true true)
example : (goExprFor Cfg.orig luaBad).pan = true ∧ goExprFor Cfg.fixed luaBad = Res.error := by decide +kernel
/-- `… WHERE LUA('x', ARRAY(x), ARRAY(y)) = 1` is accepted. -/
private def arr (n : String) : Arg := .ns (.func "ARRAY" (.cons (.ns (.col n) "" lit0) .nil)) "" lit0
example : goExprFor Cfg.fixed (.cmp "=" (.func "LUA" (.cons (.ns .str "" lit0) (.cons (arr "x") (.cons (arr "y") .nil))))
    (.num true true)) = Res.ok GoTy.bool := by decide +kernel
/-- `… WHERE CONCAT() = 1`: goexpr.Concat indexes its (empty) arguments. -/
example : (goExprFor Cfg.orig (.cmp "=" (.func "CONCAT" .nil) (.num true true))).pan = true ∧
    goExprFor Cfg.fixed (.cmp "=" (.func "CONCAT" .nil) (.num true true)) = Res.error := by decide +kernel
/-- the grammar invariants matter: an empty tuple would make `e[0]` panic. -/
example : (exprFor Cfg.fixed ⟨[], []⟩ (.tuple .nil) true).pan = true := by decide +kernel
/-- an expression with both outcomes: `SELECT SUM(a) AS x FROM t` builds, `Validate()` decides. -/
example : fieldsOf Cfg.fixed [] (tbl (.cons (.ns (.func "SUM" (.cons colA .nil)) "x" lit0) .nil)) =
    ⟨some (), true, false⟩ := by decide +kernel

private def good : Payload := ⟨true, false, true, true, true, [.num]⟩
private def emptyArr : Payload := ⟨true, false, true, true, true, [.arrF 0, .num]⟩
private def garbage : Payload := ⟨true, false, false, false, true, []⟩
example : emptyArr.bad = true ∧ garbage.bad = true ∧ good.bad = false := by decide +kernel
/-- valid, bad, valid: both valid points arrive, the bad one is skipped and the offset is 3. -/
example : run (ICfg.fixed true) St.init [good, emptyArr, good] = ⟨[1, 1], 3, false⟩ := by decide +kernel
/-- garbage bytes are rejected up front (`ICfg.validateRaw`); without that check and with a dimension
    whitelist they panic in the caller (`dims.Slice` in InsertRaw, i.e. in the gRPC handler's goroutine). -/
example : insertRaw (ICfg.fixed true) garbage = Ack.rejected ∧
    insertRaw ⟨false, true, true⟩ garbage = Ack.callerPanic := by decide +kernel
/-- without the `recover` in `table.insert` an empty array kills the pipeline: the valid point
    after it never arrives (what `recover_boundaries_present` protects). -/
example : run ⟨true, false, false⟩ St.init [good, emptyArr, good] = ⟨[1], 1, true⟩ := by decide +kernel

/-- `CROSSHIFT(a, '10s', '-3s')`: 4 fields; `('1000s','1s')`: 1000; `('1001s','-1s')`: error. -/
example : Cross.crosshift 1000 Cross.canonical 10000000000 (-3000000000) = .fields 4 ∧
    Cross.crosshift 1000 Cross.canonical 1000000000000 1000000000 = .fields 1000 ∧
    Cross.crosshift 1000 Cross.canonical 1001000000000 (-1000000000) = .error := by decide +kernel
/-- the order matters: with the sign normalisation moved below the cap check,
    `CROSSHIFT(a, '100h', '-1ns')` passes the check (negative quotient) and loops 3.6e14 times -/
example : Cross.crosshift 1000 [.zeroCutoff, .zeroInterval, .limitIsCutoff, .absLimit, .cap, .absInterval, .loopGuarded]
    360000000000000 (-1) = .fields 360000000000000 := by decide +kernel
/-- … and without the normalisation the loop counter never reaches the limit -/
example : Cross.crosshift 1000 [.zeroCutoff, .zeroInterval, .limitIsCutoff, .absLimit, .cap, .loopGuarded]
    10000000000 (-1000000000) = .diverges := by decide +kernel
/-- without the cap: 3.6e14 fields -/
example : Cross.crosshift 1000 [.zeroCutoff, .zeroInterval, .absInterval, .limitIsCutoff, .absLimit, .loopGuarded]
    360000000000000 1 = .fields 360000000000000 := by decide +kernel
/-- without the overflow guard (the code before C16-fix-16): `CROSSHIFT(a, '2562047h', '1708031h')`
    passes the cap (quotient 1) and `i += interval` wraps around int64 -/
example : Cross.crosshift 1000 Cross.unguarded 9223369200000000000 6148911600000000000 = .wraps ∧
    Cross.crosshift 1000 Cross.canonical 9223369200000000000 6148911600000000000 = .fields 2 := by decide +kernel
/-- without the zero check the cap check divides by zero -/
example : Cross.crosshift 1000 [.zeroCutoff, .absInterval, .limitIsCutoff, .absLimit, .cap, .loopGuarded] 5 0 = .divZero := by decide +kernel

/-! ### Lexer agreement: non-vacuity and the findings as witnesses

The inputs are written as `Char` lists (`decide` on `String.toList` of some literals does not
terminate in reasonable time); each is tied to its text by an `example`. -/

section LexerWitnesses
open Zeno.Sql.Lex

/-- closed backtick identifier, a string with an escaped quote, backticks inside comments -/
private def wOk : Str :=
  ['a', ' ', '=', ' ', '\'', 'x', '\\', '\'', '\'', ' ', 'A', 'N', 'D', ' ', '`', 'c', '`', ' ', '/', '*', ' ', '`', ' ', '*', '/', ' ', '-', '-', ' ', '`']
example : wOk = "a = 'x\\'' AND `c` /* ` */ -- `".toList := by decide +kernel
/-- an open backtick identifier -/
private def wOpen : Str :=
  ['a', ' ', '=', ' ', '1', ' ', 'A', 'N', 'D', ' ', '`', 'c']
example : wOpen = "a = 1 AND `c".toList := by decide +kernel
/-- a literal ending in two backslashes, then an open backtick identifier -/
private def wBackslash : Str :=
  ['x', ' ', '=', ' ', '\'', 'b', '\\', '\\', '\'', ' ', '`', 'c']
example : wBackslash = "x = 'b\\\\' `c".toList := by decide +kernel
/-- exponent sign, lone minus, open backtick identifier -/
private def wExponent : Str :=
  ['x', ' ', '=', ' ', '1', 'e', '-', '-', '`', 'c']
example : wExponent = "x = 1e--`c".toList := by decide +kernel

/-- accepted, and the tokenizer ends -/
example : preAll 40 true wOk = some true ∧ tokAll 40 true wOk = some true := by decide +kernel
/-- rejected, and the tokenizer would loop -/
example : preAll 40 true wOpen = some false ∧ tokAll 40 true wOpen = some false := by decide +kernel

/-- the seeded regression (`case ch == '\\' && at(i) == c`: a backslash escapes only the delimiter),
    on the text  x = 'b\\' `c  (two backslashes): the tokenizer takes them as one escaped backslash,
    closes the string at the quote and then meets the open backtick — it never returns.  The mutated
    pre-scan takes the first backslash as a plain byte and the second as escaping the quote, so for
    it the string never ends: it returns nil.  The pre-scan as it is rejects. -/
theorem seeded_backslash_witness :
    preAllWith (preStringWith false) 40 true wBackslash = some true ∧
    tokAll 40 true wBackslash = some false ∧ preAll 40 true wBackslash = some false := by decide +kernel

/-- finding N14 (the pre-scan before C16-fix-18 knew strings, comments and backticks, but not
    tokens): in  x = 1e--`c  the tokenizer takes the first `-` as the exponent's sign, so the second
    is a lone minus and the backtick identifier is open: the tokenizer loops.  The old pre-scan
    saw the line comment  --`c  and accepted. -/
theorem old_prescan_witness :
    preOld 40 wExponent = some true ∧ tokAll 40 true wExponent = some false ∧
    preAll 40 true wExponent = some false := by decide +kernel

end LexerWitnesses

end Zeno.C16
