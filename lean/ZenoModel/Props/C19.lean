/-
C19 — data-disclosing endpoints refuse callers without valid credentials.

Property theorems only.  Two kinds of statement:

* decision logic, for ALL passwords / metadata / options / headers / cookies / instants
  (no bound), over `Model/Auth.lean` (`rpcAuthorize`, `rpcServe`, `webAuthenticate`,
  `webServe`), which follows `rpc/server/rpc_server.go` and `web/auth.go` branch for
  branch and is tied to the code by the exhaustive `auth` correspondence engine;
* `decide` over the tables in `Generated/Facts.lean`, which tools/extract/auth.go
  regenerates from the Go source on every run, against the hand-written expectations
  below — a handler or route that is added, loses its guard, or gets the guard after its
  first use makes these fail until it is classified here.

Reading of "expired session is not accepted" used below (the `fix:` for D11 inverts the
comparison, it does not remove the re-verification branch): an expired cookie is never
accepted for what it says; the request is served only if GitHub, asked at that moment
with the token inside the cookie, confirms the organisation membership again
(`orgVerified`).  `expired_cookie_refused` is therefore stated for `orgVerified = false`
(in the sandbox GitHub is unreachable, so that is the only case the tie can observe).
-/
import ZenoModel.Model.Auth
import ZenoModel.Generated.Facts

/-! ## Hand-written expectations (the specification side)

Kept in their own namespace so that only the property theorems live in `Zeno.C19`
(every theorem of that namespace is counted as a proof obligation and axiom-audited). -/
namespace Zeno.AuthSpec
open Zeno

/-- RPCs that disclose stored data or query traffic. -/
def disclosing : Rpc → Bool
  | .query => true          -- returns rows
  | .follow => true         -- streams the write-ahead log
  | .remoteQuery => true    -- receives the SQL of cluster queries, may answer them
  | .insert => false        -- write-only, "anyone can insert"

/-- The same by Go method name, for the regenerated table. -/
def disclosingRpcs : List String := ["Query", "Follow", "HandleRemoteQueries"]

/-- Path templates of the routes that serve stored data, query results, cached results,
    the query UI or server statistics. -/
def dataRoutes : List String :=
  ["/async", "/immediate", "/run", "/cached/{permalink}", "/report/{permalink}", "/metrics", "/"]

/-- Routes that are meant to be reachable without credentials. -/
def publicRoutes : List String := ["/insert/{stream}", "/oauth/code", "/favicon"]

def oauthConfigured (o : WebOpts) : Prop := o.oauthClientID ≠ "" ∧ o.oauthClientSecret ≠ ""

/-- the request carries the configured static token -/
def staticTokenOk (o : WebOpts) (r : WebReq) : Prop := o.password ≠ "" ∧ r.authHeader = o.password

/-- the request carries a session cookie that verifies and is unexpired, or whose holder
    has just been re-verified as an organisation member -/
def sessionOk (r : WebReq) (now : Int) : Prop :=
  ∃ c, r.cookie = some c ∧ c.decodes = true ∧ (now < c.expiration ∨ c.orgVerified = true)

/-- Is the handler method `name` guarded according to the regenerated facts: its first
    statement is the guard, or its body is a single call of a guarded handler method. -/
def handlerGuarded (hs : List Facts.WebHandler) : Nat → String → Bool
  | 0, _ => false
  | fuel + 1, name =>
    match hs.find? (fun h => h.name == name) with
    | none => false
    | some h => h.guardFirst || (h.delegatesTo != "" && handlerGuarded hs fuel h.delegatesTo)

def routeGuarded (r : Facts.WebRoute) : Bool :=
  r.handler != "" && handlerGuarded Facts.webHandlers 4 r.handler

end Zeno.AuthSpec

namespace Zeno.C19
open Zeno Zeno.AuthSpec

/-- `authorize` lets a call through exactly when no password is configured or the
    metadata carries the configured password under `pwd`. -/
theorem rpc_authorize_iff (pw : String) (r : RpcReq) :
    rpcAuthorize pw r = true ↔ pw = "" ∨ (r.hasMd = true ∧ pw ∈ r.md.get rpcPasswordKey) := by
  unfold rpcAuthorize
  by_cases h : pw = ""
  · simp [h]
  · cases r.hasMd <;> simp [h]

/-- Password configured and not among the presented ones ⇒ `authorize` returns an error. -/
theorem rpc_refuses_without_password (pw : String) (r : RpcReq)
    (hpw : pw ≠ "") (hn : pw ∉ r.md.get rpcPasswordKey) : rpcAuthorize pw r = false :=
  Bool.eq_false_iff.mpr fun h => ((rpc_authorize_iff pw r).1 h).elim hpw fun h' => hn h'.2

/-- … hence every data-disclosing RPC ends before its first database / stream use. -/
theorem rpc_disclosing_refused (k : Rpc) (hk : disclosing k = true) (pw : String) (r : RpcReq)
    (hpw : pw ≠ "") (hn : pw ∉ r.md.get rpcPasswordKey) : rpcServe k pw r = false := by
  have hg : k.guarded = true := by cases k <;> simp_all [disclosing, Rpc.guarded]
  simp [rpcServe, rpcServeWith, hg, rpc_refuses_without_password pw r hpw hn]

/-- The right password is served (the model is not "refuse everything"). -/
theorem rpc_right_password_served (k : Rpc) (pw : String) (r : RpcReq)
    (hm : r.hasMd = true) (hin : pw ∈ r.md.get rpcPasswordKey) : rpcServe k pw r = true := by
  have := (rpc_authorize_iff pw r).2 (Or.inr ⟨hm, hin⟩)
  unfold rpcServe rpcServeWith
  split <;> simp_all

/-- Over the regenerated handler table of `rpc/server/rpc_server.go`:
    (1) every stream handler found in the source is classified by the model's table and
        its guard status is the one the model assumes;
    (2) every data-disclosing handler calls `authorize`, returns its error, and does so
        before the first use of `s.db` / the stream;
    (3) every handler the model knows exists in the source. -/
theorem all_disclosing_handlers_guarded :
    (∀ h ∈ Facts.rpcHandlers, (Rpc.ofGoName h.name).map Rpc.guarded = some h.guardBeforeUse) ∧
    (∀ h ∈ Facts.rpcHandlers, h.name ∈ disclosingRpcs →
        h.authorizeChecked = true ∧ h.guardBeforeUse = true) ∧
    (∀ k ∈ Rpc.all, ∃ h ∈ Facts.rpcHandlers, h.name = k.goName) ∧
    (∀ k ∈ Rpc.all, disclosing k = decide (k.goName ∈ disclosingRpcs)) := by
  decide +kernel

/-- With OAuth configured, `authenticate` returns true only for the static token or a
    verifying session that is unexpired or freshly re-verified. -/
theorem web_refuses (o : WebOpts) (r : WebReq) (now : Int) (ho : oauthConfigured o)
    (h : webAuthenticate o r now = .allow) : staticTokenOk o r ∨ sessionOk r now := by
  obtain ⟨h1, h2⟩ := ho
  unfold webAuthenticate webAuthenticateB at h
  rw [if_neg (by simp [h1, h2])] at h
  by_cases hs : (o.password != "" && r.authHeader != "") = true
  · rw [if_pos hs] at h
    by_cases he : r.authHeader = o.password
    · exact Or.inl ⟨by simp_all, he⟩
    · simp [he] at h
  · rw [if_neg hs] at h
    right
    cases hc : r.cookie with
    | none => simp [hc] at h
    | some c =>
      cases hd : c.decodes
      · simp [hc, hd] at h
      · refine ⟨c, hc, hd, ?_⟩
        by_cases hf : now < c.expiration
        · exact Or.inl hf
        · cases hv : c.orgVerified
          · simp [hc, hd, sessionFresh, hf, hv] at h
          · exact Or.inr rfl

theorem dataRoutes_guarded : ∀ q ∈ dataRoutes, webRouteGuarded q = some true := by decide +kernel

/-- The same at route level: a data route's handler body runs only for such requests. -/
theorem web_data_route_refuses (p : String) (hp : p ∈ dataRoutes) (o : WebOpts) (r : WebReq)
    (now : Int) (ho : oauthConfigured o) (h : webServe p o r now = some .allow) :
    staticTokenOk o r ∨ sessionOk r now := by
  apply web_refuses o r now ho
  simpa [webServe, webServeB, dataRoutes_guarded p hp, webAuthenticate] using h

/-- An expired session cookie is not accepted (unless GitHub re-verifies the holder now). -/
theorem expired_cookie_refused (o : WebOpts) (r : WebReq) (now : Int) (c : Cookie)
    (ho : oauthConfigured o) (hs : ¬ staticTokenOk o r) (hc : r.cookie = some c)
    (he : c.expiration ≤ now) (hv : c.orgVerified = false) :
    webAuthenticate o r now ≠ .allow := by
  intro h
  rcases web_refuses o r now ho h with h | ⟨c', hc', _, h⟩
  · exact hs h
  · rw [hc] at hc'
    cases hc'
    rcases h with h | h
    · omega
    · simp [hv] at h

/-- A forged cookie (one that does not verify under the server's keys) is not accepted. -/
theorem forged_cookie_refused (o : WebOpts) (r : WebReq) (now : Int) (c : Cookie)
    (ho : oauthConfigured o) (hs : ¬ staticTokenOk o r) (hc : r.cookie = some c)
    (hd : c.decodes = false) : webAuthenticate o r now ≠ .allow := by
  intro h
  rcases web_refuses o r now ho h with h | ⟨c', hc', hd', _⟩
  · exact hs h
  · rw [hc] at hc'
    cases hc'
    simp [hd] at hd'

/-- No credential at all ⇒ redirect to the OAuth provider. -/
theorem no_credential_refused (o : WebOpts) (now : Int) (ho : oauthConfigured o) :
    webAuthenticate o { authHeader := "", cookie := none } now = .redirect := by
  obtain ⟨h1, h2⟩ := ho
  simp [webAuthenticate, webAuthenticateB, h1, h2]

/-- A wrong static token is refused even when a good session cookie comes with it
    (`authenticate` lets a present static token decide alone). -/
theorem wrong_static_token_refused (o : WebOpts) (r : WebReq) (now : Int) (ho : oauthConfigured o)
    (hp : o.password ≠ "") (hh : r.authHeader ≠ "") (hw : r.authHeader ≠ o.password) :
    webAuthenticate o r now = .deny := by
  obtain ⟨h1, h2⟩ := ho
  simp [webAuthenticate, webAuthenticateB, h1, h2, hp, hh, hw]

/-- A fresh verifying session is served (the model is not "refuse everything"). -/
theorem fresh_session_served (o : WebOpts) (now : Int) (c : Cookie)
    (hd : c.decodes = true) (hf : now < c.expiration) :
    webAuthenticate o { authHeader := "", cookie := some c } now = .allow := by
  unfold webAuthenticate webAuthenticateB
  cases (o.oauthClientID == "" || o.oauthClientSecret == "")
  · cases (o.password != "") <;> simp only [hd, sessionFresh, hf] <;> rfl
  · rfl

/-- Over the regenerated route and handler tables of `web/*.go`:
    (1) every registered route is classified (data or public) by the hand-written lists;
    (2) every data route is served by a handler method whose first statement is the
        `authenticate` guard (directly, or through a single delegating call);
    (3) every expected data route is registered;
    (4) the source's route table (path, matching mode, handler, guarded), in registration
        order, is exactly the model's `webRouteTable`. -/
theorem all_data_routes_guarded :
    (∀ r ∈ Facts.webRoutes, r.path ∈ dataRoutes ∨ r.path ∈ publicRoutes) ∧
    (∀ r ∈ Facts.webRoutes, r.path ∈ dataRoutes → routeGuarded r = true) ∧
    (∀ p ∈ dataRoutes, ∃ r ∈ Facts.webRoutes, r.path = p) ∧
    Facts.webRoutes.map (fun r => (⟨r.path, r.prefixMatch, r.handler, routeGuarded r⟩ : WebRouteInfo))
      = webRouteTable := by
  decide +kernel

/-! ## The two findings, as witnesses on the pre-fix decision functions -/

/-- D10: before the fix, remote-query registration was served without any password. -/
theorem d10_witness_unauthenticated_registration_served :
    rpcServeBuggy .remoteQuery "secret" { hasMd := true, md := [] } = true ∧
    rpcServe .remoteQuery "secret" { hasMd := true, md := [] } = false := by decide

/-- D11: before the fix, a verifying cookie that expired an hour ago was accepted, and one
    that is still valid for an hour was not (fell through to the GitHub check). -/
theorem d11_witness_expired_cookie_accepted :
    let o : WebOpts := { oauthClientID := "id", oauthClientSecret := "secret", password := "" }
    let expired : WebReq := { authHeader := "", cookie := some ⟨true, -3600, false⟩ }
    let fresh : WebReq := { authHeader := "", cookie := some ⟨true, 3600, false⟩ }
    webAuthenticateBuggy o expired 0 = .allow ∧ webAuthenticate o expired 0 = .redirect ∧
    webAuthenticateBuggy o fresh 0 = .redirect ∧ webAuthenticate o fresh 0 = .allow := by decide

/-- hypotheses of `rpc_disclosing_refused` are satisfiable, with a non-empty credential -/
example : ("secret" : String) ≠ "" ∧
    "secret" ∉ Metadata.get [("pwd", ["wrong", ""]), ("other", ["secret"])] rpcPasswordKey := by decide
example : rpcServe .query "secret" ⟨true, [("pwd", ["wrong", ""]), ("other", ["secret"])]⟩ = false := by decide
example : rpcServe .query "secret" ⟨true, [("pwd", ["wrong", "secret"])]⟩ = true := by decide
example : rpcServe .insert "secret" ⟨true, []⟩ = true := by decide
example : rpcServe .follow "" ⟨true, []⟩ = true := by decide
/-- the regenerated tables are not empty -/
example : Facts.rpcHandlers.length ≥ 4 ∧ Facts.webRoutes.length ≥ 10 := by decide
/-- `web_refuses` has instances on both sides -/
example : webAuthenticate ⟨"id", "sec", "tok"⟩ ⟨"tok", none⟩ 0 = .allow := by decide
example : webAuthenticate ⟨"id", "sec", "tok"⟩ ⟨"nope", some ⟨true, 10, true⟩⟩ 0 = .deny := by decide
example : webAuthenticate ⟨"id", "sec", ""⟩ ⟨"tok", some ⟨false, 10, true⟩⟩ 0 = .redirect := by decide
example : webAuthenticate ⟨"id", "sec", ""⟩ ⟨"", some ⟨true, -1, true⟩⟩ 0 = .allow := by decide
example : webAuthenticate ⟨"id", "", "tok"⟩ ⟨"", none⟩ 0 = .allow := by decide
example : webServe "/run" ⟨"id", "sec", ""⟩ ⟨"", none⟩ 0 = some .redirect := by decide +kernel
example : webServe "/insert/{stream}" ⟨"id", "sec", ""⟩ ⟨"", none⟩ 0 = some .allow := by decide +kernel
example : webServe "/nope" ⟨"id", "sec", ""⟩ ⟨"", none⟩ 0 = none := by decide +kernel

end Zeno.C19
