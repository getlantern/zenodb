/-
C09 — regenerated structural facts (Generated/Facts.lean, tools/extract/orderlimit.go).

The model's `addOrderLimitOffset` (Model/Sort.lean) slices the COMPLETE ordered list, and
`query_spec` is a statement about that composition.  Whether the code has that shape is not
something small generated cases can see: a sorter that is told the LIMIT and keeps only a
prefix behaves like the model until the result outgrows its buffer.  So the shape is a proof
obligation over facts re-extracted from /repo on every run:

* `planner_wraps_full_sort` — planner/planner.go `addOrderLimitOffset` is, statement by
  statement, `if len(query.OrderBy) > 0 { flat = core.Sort(flat, query.OrderBy...) }`,
  `if query.Offset > 0 { flat = core.Offset(flat, query.Offset) }`,
  `if query.Limit > 0 { flat = core.Limit(flat, query.Limit) }`, `return flat`
  (nothing but the key list reaches the sorter; OFFSET and LIMIT are wrapped after it, in the
  order of the model's `limitOffset`);
* `sorter_retains_all_rows` — core/sort.go: `Sort` builds a `sorter` whose only state is the
  source and the key list, and the callback it hands to its source appends every row and
  does nothing else (no compaction, no bound).

A change of either (e.g. `core.SortTop(flat, query.Limit, …)`) breaks `decide` here and is
reported as a broken obligation; the size-dependent behaviour itself is searched by the
`large` cases of the sortlim engine.
-/
import ZenoModel.Generated.Facts

namespace Zeno.C09
open Zeno

theorem planner_wraps_full_sort :
    Facts.oloSteps =
      [ { cond := "len(query.OrderBy) > 0", lhs := "flat", callee := "core.Sort",
          args := ["flat", "query.OrderBy..."] },
        { cond := "query.Offset > 0", lhs := "flat", callee := "core.Offset",
          args := ["flat", "query.Offset"] },
        { cond := "query.Limit > 0", lhs := "flat", callee := "core.Limit",
          args := ["flat", "query.Limit"] } ] ∧
    Facts.oloReturn = "flat" := by decide +kernel

theorem sorter_retains_all_rows :
    Facts.sortCtor = ["return &sorter{ flatRowTransform{source}, by, }"] ∧
    Facts.sorterFields = ["flatRowTransform", "by []OrderBy"] ∧
    Facts.sorterCollect = ["rows.rows = append(rows.rows, row)", "return guard.Proceed()"] := by
  decide +kernel

end Zeno.C09
